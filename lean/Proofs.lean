import Proofs.Lemmas.Choose
import Proofs.Lemmas.Frame
import Proofs.Lemmas.Lift
import Proofs.Lemmas.NavInv
import Proofs.Lemmas.ParserSpec
import Proofs.Lemmas.RenderInv
import Proofs.Lemmas.Sat
import Proofs.Lemmas.Seq
import Proofs.Lemmas.WF
import Proofs.C01
import Proofs.C02
import Proofs.C03
import Proofs.C03b
import Proofs.C04
import Proofs.C04b
import Proofs.C05
import Proofs.C06
import Proofs.C07
import Proofs.C07Bind
import Proofs.C08
import Proofs.C09
import Proofs.C10
import Proofs.C11
import Proofs.C11b
import Proofs.C11d
import Proofs.C12b
import Proofs.C12c
import Proofs.C12d
import Proofs.C13
import Proofs.C14b
import Proofs.C15
import Proofs.C16
import Proofs.C17
import Proofs.C17c
import Proofs.C18
import Proofs.C19
import Proofs.C20
import Proofs.Extracted
