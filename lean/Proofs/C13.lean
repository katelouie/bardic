import Bardic.Include
/-!
# C13 / C14 — `@include` is textual substitution with exact line provenance; diagnostics name the true origin
-/
namespace Bardic.Include

/-- combined line `l` really is line `loc.line` of file `loc.file`, and is not an include line -/
def Good (fs : FS) (l : String) (loc : Loc) : Prop :=
  ∃ text, fs.lookup loc.file = some text ∧ (linesOf text)[loc.line]? = some l ∧ isIncludeLine l = false

/-- line-by-line provenance of a resolver result (also forces equal lengths) -/
def Prov (fs : FS) : List String → List Loc → Prop
  | [], [] => True
  | l :: ls, loc :: ms => Good fs l loc ∧ Prov fs ls ms
  | _, _ => False

theorem Prov.append {fs : FS} : ∀ {a : List String} {ma : List Loc} {b : List String} {mb : List Loc},
    Prov fs a ma → Prov fs b mb → Prov fs (a ++ b) (ma ++ mb) := by
  intro a ma b mb
  fun_induction Prov fs a ma with
  | case1 => exact fun _ hb => hb
  | case2 l ls loc ms ih => exact fun ha hb => ⟨ha.1, ih ha.2 hb⟩
  | case3 => exact False.elim

theorem Prov.length {fs : FS} : ∀ {a : List String} {ma : List Loc}, Prov fs a ma → ma.length = a.length := by
  intro a ma
  fun_induction Prov fs a ma with
  | case1 => exact fun _ => rfl
  | case2 l ls loc ms ih => exact fun h => congrArg (· + 1) (ih h.2)
  | case3 => exact False.elim

theorem Prov.get {fs : FS} {a : List String} {ma : List Loc} : Prov fs a ma →
    ∀ (i : Nat) (l : String), a[i]? = some l → ∃ loc, ma[i]? = some loc ∧ Good fs l loc := by
  fun_induction Prov fs a ma with
  | case1 => exact fun _ _ _ => nofun
  | case2 l ls loc ms ih =>
    intro h i l h1
    cases i with
    | zero => exact ⟨loc, rfl, Option.some.inj h1 ▸ h.1⟩
    | succ i => exact ih h.2 i l h1
  | case3 => exact False.elim

/-- the loop over one file's lines, given that recursive resolution at this depth is sound -/
theorem resolveLines_prov (fs : FS) (fuel : Nat)
    (hres : ∀ path seen r, resolve fs fuel path seen = .ok r → Prov fs r.1 r.2)
    (path : Path) (seen : List Path) (text : String) (htext : fs.lookup path = some text) :
    ∀ (lines : List String) (idx : Nat) (r : List String × List Loc),
      (linesOf text).drop idx = lines → resolveLines fs fuel path seen lines idx = .ok r → Prov fs r.1 r.2 := by
  intro lines
  induction lines with
  | nil =>
    intro idx r _ h
    unfold resolveLines at h
    cases h
    trivial
  | cons l rest ih =>
    intro idx r hdrop h
    have hl : (linesOf text)[idx]? = some l := by rw [← List.head?_drop, hdrop]; rfl
    have hrest : (linesOf text).drop (idx + 1) = rest := by rw [← List.tail_drop, hdrop]; rfl
    unfold resolveLines at h
    by_cases hinc : isIncludeLine l = true
    · -- an include line: the included file's lines, then the rest of this file
      rw [if_pos hinc] at h
      dsimp only at h
      split at h; · cases h
      split at h; · cases h
      split at h; · cases h
      rename_i ls1 m1 hr
      split at h; · cases h
      rename_i ls2 m2 hl2
      cases h
      exact Prov.append (hres _ _ _ hr) (ih (idx + 1) _ hrest hl2)
    · rw [if_neg hinc] at h
      split at h; · cases h
      rename_i ls2 m2 hl2
      cases h
      exact ⟨⟨text, htext, hl, Bool.eq_false_iff.mpr hinc⟩, ih (idx + 1) _ hrest hl2⟩

/-- **exact provenance, any include graph, any depth**: whenever resolution succeeds, every line of
the combined text is literally the attributed line of the attributed file, is not an `@include`
line, and the line map has exactly one entry per combined line -/
theorem resolve_provenance (fs : FS) : ∀ (fuel : Nat) (path : Path) (seen : List Path) (r : List String × List Loc),
    resolve fs fuel path seen = .ok r → Prov fs r.1 r.2 := by
  intro fuel
  induction fuel with
  | zero => intro path seen r h; unfold resolve at h; cases h
  | succ fuel ih =>
    intro path seen r h
    unfold resolve at h
    split at h
    · cases h
    · split at h
      · cases h
      · rename_i text htext
        exact resolveLines_prov fs fuel ih path (path :: seen) text htext (linesOf text) 0 r List.drop_zero h

theorem resolve_len (fs : FS) (root : Path) (ls : List String) (map : List Loc)
    (h : resolveRoot fs root = .ok (ls, map)) : map.length = ls.length :=
  Prov.length (resolve_provenance fs _ root [] (ls, map) h)

/-- a file already on the current include branch is rejected (`ValueError`), at any depth -/
theorem resolve_cycle (fs : FS) (fuel : Nat) (path : Path) (seen : List Path) (h : seen.contains path = true) :
    resolve fs (fuel + 1) path seen = .error (.circular path) := by
  rw [resolve, if_pos h]

/-- a missing file is reported (`FileNotFoundError`) -/
theorem resolve_missing (fs : FS) (fuel : Nat) (path : Path) (seen : List Path)
    (hs : seen.contains path = false) (h : fs.lookup path = none) :
    resolve fs (fuel + 1) path seen = .error (.notFound path) := by
  rw [resolve, if_neg (Bool.eq_false_iff.mp hs), h]

/-- **C14, the header of every diagnostic**: a call site that passes the 0-based index `i` of the
offending combined line makes `format_error` name exactly the file and 1-based line on which that
line stands in the file the author wrote — in the main file, in an included file, or after included
content, for every include graph -/
theorem display_origin (fs : FS) (root fn : Path) (ls : List String) (map : List Loc)
    (h : resolveRoot fs root = .ok (ls, map)) (i : Nat) (l : String) (hi : ls[i]? = some l) :
    ∃ text, fs.lookup (display map fn i).1 = some text ∧
      (linesOf text)[(display map fn i).2 - 1]? = some l ∧ 1 ≤ (display map fn i).2 := by
  obtain ⟨loc, hm, text, h1, h2, _⟩ := (resolve_provenance fs _ root [] (ls, map) h).get i l hi
  have hd : display map fn i = (loc.file, loc.line + 1) := by rw [display, hm]
  rw [hd]
  exact ⟨text, h1, h2, Nat.le_add_left 1 _⟩

end Bardic.Include
