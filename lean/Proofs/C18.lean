import Bardic.Graph
import Proofs.Lemmas.Seq
/-!
# C18 — the story graph covers every transition the engine can perform

Whatever author code does (`∀ Sem`), every block choice a render hands out and every jump target a
render reports is one the static walk of `extract_connections` finds, at any nesting depth.
-/
namespace Bardic
variable {S : Sem}

/-- choices handed out in `r` are among `cs`, a reported jump target is among `js` -/
def Sub (cs : List Choice) (js : List String) (r : ROut S.V) : Prop :=
  (∀ c pre, Dir.choice c pre ∈ r.dirs → c ∈ cs) ∧ (∀ t, r.jump = some t → t ∈ js)

theorem Sub.text (cs : List Choice) (js : List String) (s : String) : Sub (S := S) cs js { text := s } :=
  ⟨fun _ _ => nofun, fun _ => nofun⟩

def SubRes (cs : List Choice) (js : List String) (x : RRes S (ROut S.V)) : Prop :=
  ∀ r, x.2 = .ok r → Sub cs js r

variable {cs : List Choice} {js : List String}

theorem SubRes.ok {rs : RS S.V} {r : ROut S.V} (h : Sub cs js r) : SubRes cs js (rs, .ok r) :=
  fun _ hr => Except.ok.inj hr ▸ h

theorem SubRes.mono {cs' : List Choice} {js' : List String} {x : RRes S (ROut S.V)}
    (h : SubRes cs js x) (hc : cs ⊆ cs') (hj : js ⊆ js') : SubRes cs' js' x :=
  fun r hr => ⟨fun c pre hm => hc ((h r hr).1 c pre hm), fun t ht => hj ((h r hr).2 t ht)⟩

theorem SubRes.bind {α} {x : RRes S α} {k : RS S.V → α → RRes S (ROut S.V)}
    (hk : ∀ rs a, x.2 = .ok a → SubRes cs js (k rs a)) : SubRes cs js (x.bind k) := by
  rcases x with ⟨rs, e | a⟩
  · exact fun _ h => nomatch h
  · exact hk rs a rfl

theorem SubRes.seqR {x : RRes S (ROut S.V)} {k : RS S.V → RRes S (ROut S.V)}
    (hx : SubRes cs js x) (hk : ∀ rs, SubRes cs js (k rs)) : SubRes cs js (seqR x k) := by
  rw [seqR_eq_bind]
  refine .bind fun rs1 r1 h1 => ?_
  split
  · exact .ok (hx r1 h1)
  · refine .bind fun rs2 r2 h2 => .ok ⟨fun c pre hm => ?_, (hk rs1 r2 h2).2⟩
    exact (List.mem_append.mp hm).elim ((hx r1 h1).1 c pre) ((hk rs1 r2 h2).1 c pre)

theorem SubRes.withVars (f : Env S.V → Env S.V) {x : RRes S (ROut S.V)} (hx : SubRes cs js x) :
    SubRes cs js (withVars f x) := hx

theorem loopItems_sub (lv : String)
    (body : RS S.V → RRes S (ROut S.V)) (chs : RS S.V → RRes S (List (Dir S.V)))
    (hb : ∀ rs, SubRes cs js (body rs))
    (hc : ∀ rs ds, (chs rs).2 = .ok ds → ∀ c pre, Dir.choice c pre ∈ ds → c ∈ cs) :
    ∀ (items : List S.V) (rs : RS S.V), SubRes cs js (loopItems S lv body chs items rs)
  | [], rs => .ok (.text _ _ _)
  | item :: items, rs => by
      rw [loopItems_cons]
      refine .seqR (.withVars _ (.bind fun rs2 r hr => .bind fun rs3 cds hcds => .ok ⟨fun c pre hm => ?_, (hb _ r hr).2⟩))
        (loopItems_sub lv body chs hb hc items)
      exact (List.mem_append.mp hm).elim ((hb _ r hr).1 c pre) (hc rs2 cds hcds c pre)

theorem loopFail_sub (cfg : RCfg S) (rs : RS S.V) (msg : String) : SubRes cs js (loopFail S cfg rs msg) := by
  unfold loopFail
  cases cfg.variant
  · exact fun _ => nofun
  · exact .ok (.text _ _ _)

theorem loopOver_sub (cfg : RCfg S) (lv : String)
    (body : RS S.V → RRes S (ROut S.V)) (chs : RS S.V → RRes S (List (Dir S.V)))
    (hb : ∀ rs, SubRes cs js (body rs))
    (hc : ∀ rs ds, (chs rs).2 = .ok ds → ∀ c pre, Dir.choice c pre ∈ ds → c ∈ cs)
    (coll : Except PyErr (List S.V)) (rs : RS S.V) : SubRes cs js (loopOver cfg lv body chs coll rs) := by
  rcases coll with e | items
  · exact loopFail_sub _ _ _
  · have := loopItems_sub lv body chs hb hc items rs
    revert this
    dsimp only [loopOver]
    rcases loopItems S lv body chs items rs with ⟨rs', e | r⟩
    · exact fun _ => loopFail_sub _ _ _
    · exact id

theorem renderChoiceTexts_sub (cfg : RCfg S) (cs : List Choice) : ∀ (rs : RS S.V) (ds : List (Dir S.V)),
    (renderChoiceTexts S cfg cs rs).2 = .ok ds → ∀ c pre, Dir.choice c pre ∈ ds → c ∈ cs := by
  induction cs with
  | nil => exact fun _ _ h _ _ hm => by cases h; cases hm
  | cons ch cs ih =>
    intro rs ds h c pre hm
    rw [renderChoiceTexts_cons] at h
    obtain ⟨r, hr, h⟩ := RRes.bind_ok h
    obtain ⟨ds', hds, ⟨⟩⟩ := RRes.bind_ok h
    exact List.mem_cons.mpr ((List.mem_cons.mp hm).imp (fun e => (Dir.choice.inj e).1) (ih _ ds' hds c pre))

mutual
theorem renderTok_sub (cfg : RCfg S) : ∀ (t : Tok) (rs : RS S.V),
    SubRes (tokChoices t) (tokJumps t) (renderTok S cfg t rs) := by
  intro t rs
  cases t with
  | inlineCond c t f =>
      rw [renderTok_inlineCond]
      split
      · exact .ok (.text _ _ _)
      · split <;> exact .ok (.text _ _ _)
  | render name args hint =>
      refine .ok ⟨fun c pre => ?_, fun _ => nofun⟩
      rw [List.mem_singleton]
      fun_cases processRender <;> nofun
  | input attrs => exact .ok ⟨fun c pre hm => by simp at hm, fun _ => nofun⟩
  | stmt code => rw [renderTok_stmt]; exact .bind fun _ _ _ => .ok (.text _ _ _)
  | pyblock code => rw [renderTok_pyblock]; exact .bind fun _ _ _ => .ok (.text _ _ _)
  | cond bs => exact renderBranches_sub cfg bs rs
  | loop lv coll body choices =>
      rw [renderTok_loop]
      split
      · exact .ok (.text _ _ _)
      · exact loopOver_sub cfg lv _ _
          (fun rs' => (renderToks_sub cfg body rs').mono (List.subset_append_right choices _) (List.Subset.refl _))
          (fun rs' ds hds c pre hm => List.mem_append_left _ (renderChoiceTexts_sub cfg choices rs' ds hds c pre hm))
          _ rs
  | jump t a => exact .ok ⟨fun _ _ => nofun, fun _ h => List.mem_singleton.mpr (Option.some.inj h).symm⟩
  | _ => exact .ok (.text _ _ _)

theorem renderToks_sub (cfg : RCfg S) : ∀ (ts : List Tok) (rs : RS S.V),
    SubRes (toksChoices ts) (toksJumps ts) (renderToks S cfg ts rs)
  | [], rs => .ok (.text _ _ _)
  | t :: ts, rs => by
      rw [renderToks_cons]
      split
      · exact .ok (.text _ _ _)
      · exact .seqR ((renderTok_sub cfg t rs).mono (List.subset_append_left ..) (List.subset_append_left ..))
          fun rs1 => (renderToks_sub cfg ts rs1).mono (List.subset_append_right ..) (List.subset_append_right ..)

theorem renderBranches_sub (cfg : RCfg S) : ∀ (bs : List Branch) (rs : RS S.V),
    SubRes (branchesChoices bs) (branchesJumps bs) (renderBranches S cfg bs rs)
  | [], rs => .ok (.text _ _ _)
  | .mk c body chs :: bs, rs => by
      rw [renderBranches_cons]
      split
      · refine .bind fun rs' r hr => .ok ⟨fun c' pre hm => ?_, fun x hx => List.mem_append_left _ ((renderToks_sub cfg body rs r hr).2 x hx)⟩
        rcases List.mem_append.mp hm with hm | hm
        · exact List.mem_append_left _ (List.mem_append_right _ ((renderToks_sub cfg body rs r hr).1 c' pre hm))
        · obtain ⟨c0, hc0, heq⟩ := List.mem_map.mp hm
          cases heq
          exact List.mem_append_left _ (List.mem_append_left _ hc0)
      · exact (renderBranches_sub cfg bs rs).mono
          (List.subset_append_right (chs ++ toksChoices body) _) (List.subset_append_right (toksJumps body) _)
end

theorem offerChoices_subset (cfg : RCfg S) (cur : Option String) (used : List String) (secOk : Choice → Bool) :
    ∀ (cs : List (Choice × Option String × Bool)) (rs : RS S.V) (os : List OChoice),
      (offerChoices cfg cur used secOk cs rs).2 = .ok os → ∀ o ∈ os, ∃ x ∈ cs, x.1 = o.c := by
  intro cs rs os h o ho
  obtain ⟨pre, _, _, hx, _⟩ := offerChoices_mem cfg cur used secOk cs rs _ os (Prod.ext rfl h) o ho
  exact ⟨_, hx, rfl⟩

/-- **every choice the engine can offer in a passage, and every jump a render of it can report, is in
the static walk of that passage** — at any nesting depth, for any author code -/
theorem renderPassage_in_graph (c : ECfg S) (pid : String) (l : Live S.V) (p : Passage) (o : Output S.V)
    (hp : c.story.passage? pid = some p) (h : (renderPassage c pid l).2 = .ok o) :
    (∀ oc ∈ o.choices, oc.c ∈ p.choices ++ toksChoices p.content) ∧
    (∀ t, o.jump = some t → t ∈ toksJumps p.content) := by
  revert h
  fun_cases renderPassage c pid l
  case case1 | case2 | case3 => exact nofun
  case case4 p' hp' cfg rs1 r he _ _ rs2 os ho =>
    intro h
    cases h
    cases hp.symm.trans hp'
    have hsub := renderToks_sub cfg p.content l.rs r (by rw [he])
    refine ⟨fun oc hoc => ?_, hsub.2⟩
    obtain ⟨x, hx, hxc⟩ := offerChoices_subset _ _ _ _ _ rs1 os (by rw [ho]) oc hoc
    rw [← hxc]
    rcases List.mem_append.mp hx with hx | hx
    · obtain ⟨ch, hch, rfl⟩ := List.mem_map.mp hx
      exact List.mem_append_left _ hch
    · exact List.mem_append_right _ (hsub.1 x.1 x.2.1 (mem_dirChoices r.dirs x hx).1)

theorem firstJumpSpec_in (ts : List Tok) (spec : String) (h : firstJumpSpec ts = some spec) :
    ∃ t a, Tok.jump t a ∈ ts ∧ t ∈ toksJumps ts ∧ (spec = t ∨ spec = t ++ "(" ++ a ++ ")") := by
  revert h
  fun_induction firstJumpSpec ts with
  | case1 => exact nofun
  | case2 t a rest =>
    intro h
    cases h
    refine ⟨t, a, List.mem_cons_self, List.mem_cons_self, ?_⟩
    split
    · exact .inr rfl
    · exact .inl rfl
  | case3 x rest hx ih =>
    intro h
    obtain ⟨t, a, h1, h2, h3⟩ := ih h
    exact ⟨t, a, List.mem_cons_of_mem _ h1, List.mem_append_right _ h2, h3⟩

/-- every edge target the analysis flags as missing is referenced and undefined, and conversely; the
reserved `@join` is never a reference -/
theorem missing_exact (s : Story) (t : String) :
    (t ∈ graphMissing s ↔ t ∈ graphReferenced s ∧ t ∉ graphDefined s) ∧ "@join" ∉ ((graphEdges s).filter (fun e => !e.2.2)).map (·.2.1) := by
  constructor
  · simp [graphMissing]
  · intro h
    simp only [List.mem_map, List.mem_filter] at h
    obtain ⟨e, ⟨he, hne⟩, heq⟩ := h
    simp only [graphEdges, List.mem_flatMap, List.mem_map] at he
    obtain ⟨kv, _, e', he', hee⟩ := he
    subst hee
    simp only [passageEdges, List.mem_append, List.mem_map, List.mem_filter] at he'
    rcases he' with ⟨c, ⟨_, hc⟩, hce⟩ | ⟨t', _, hte⟩
    · subst hce
      simp only at heq
      simp [heq] at hc
    · subst hte; simp at hne

end Bardic
