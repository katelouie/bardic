import Proofs.C18
import Bardic.Wf
/-!
# C12 — in a story whose call sites are all valid, every choice a passage can offer leads somewhere
-/
namespace Bardic
variable {S : Sem}

mutual
theorem tokChoices_sites (src : String) : ∀ (t : Tok) (c : Choice), c ∈ tokChoices t →
    (⟨src, c.target, c.args, true, false⟩ : CallSite) ∈ tokSites src t := by
  intro t c h
  cases t with
  | cond bs => exact branchesChoices_sites src bs c h
  | loop _ _ body chs =>
      rcases List.mem_append.mp h with h | h
      · exact List.mem_append_left _ (List.mem_map_of_mem h)
      · exact List.mem_append_right _ (toksChoices_sites src body c h)
  | _ => exact absurd h List.not_mem_nil
theorem toksChoices_sites (src : String) : ∀ (ts : List Tok) (c : Choice), c ∈ toksChoices ts →
    (⟨src, c.target, c.args, true, false⟩ : CallSite) ∈ toksSites src ts
  | t :: ts, c, h => by
      rcases List.mem_append.mp h with h | h
      · exact List.mem_append_left _ (tokChoices_sites src t c h)
      · exact List.mem_append_right _ (toksChoices_sites src ts c h)
theorem branchesChoices_sites (src : String) : ∀ (bs : List Branch) (c : Choice), c ∈ branchesChoices bs →
    (⟨src, c.target, c.args, true, false⟩ : CallSite) ∈ branchesSites src bs
  | .mk _ body chs :: bs, c, h => by
      rcases List.mem_append.mp h with h | h
      · refine List.mem_append_left _ ?_
        rcases List.mem_append.mp h with h | h
        · exact List.mem_append_left _ (List.mem_map_of_mem h)
        · exact List.mem_append_right _ (toksChoices_sites src body c h)
      · exact List.mem_append_right _ (branchesChoices_sites src bs c h)
end

theorem toksChoices_eq_flatMap : ∀ ts : List Tok, toksChoices ts = ts.flatMap tokChoices
  | [] => rfl
  | t :: ts => (congrArg (tokChoices t ++ ·) (toksChoices_eq_flatMap ts)).trans List.flatMap_cons.symm

/-- a choice found at any depth of a passage's content is one of its nested call sites -/
theorem toksChoices_nestedSites (p : Passage) (c : Choice) (h : c ∈ toksChoices p.content) :
    (⟨p.id, c.target, c.args, true, false⟩ : CallSite) ∈ nestedSites p := by
  obtain ⟨t, ht, hc⟩ := List.mem_flatMap.mp (toksChoices_eq_flatMap _ ▸ h)
  refine List.mem_flatMap.mpr ⟨t, ht, ?_⟩
  split
  · cases hc
  · exact tokChoices_sites p.id _ c hc

/-- a valid call site is a `-> @join` choice or names a passage that exists -/
theorem siteOk_target {s : Story} {parse : String → Option (Nat × List String)} {cs : CallSite}
    (h : siteOk s parse cs = true) :
    (cs.target = "@join" ∧ cs.isJump = false) ∨ (s.passage? cs.target).isSome = true := by
  unfold siteOk at h
  cases hq : s.passage? cs.target with
  | some _ => exact Or.inr rfl
  | none =>
    rw [hq] at h
    exact Or.inl (by simpa using h)

/-- **navigation safety at the choice level**: in a story where every call site at every depth is valid (`wfAll`, what
C12 asks of a compiled story), every choice any passage can ever offer — top-level or handed out by an `@if` / `@for`,
for every state and every author code — is either a `-> @join` choice or names a passage that exists -/
theorem wfAll_offered_target_exists (c : ECfg S) (parse : String → Option (Nat × List String))
    (hwf : wfAll c.story parse = true) (pid : String) (p : Passage) (l : Live S.V) (o : Output S.V)
    (hp : c.story.passage? pid = some p) (hmem : (pid, p) ∈ c.story.passages)
    (h : (renderPassage c pid l).2 = .ok o) :
    ∀ oc ∈ o.choices, oc.c.target = "@join" ∨ (c.story.passage? oc.c.target).isSome = true := by
  intro oc hoc
  simp only [wfAll, wfTop, Bool.and_eq_true, List.all_eq_true] at hwf
  rcases List.mem_append.mp ((renderPassage_in_graph c pid l p o hp h).1 oc hoc) with h1 | h2
  · exact (siteOk_target (hwf.1.2 (pid, p) hmem ⟨p.id, oc.c.target, oc.c.args, false, false⟩
      (List.mem_append_left _ (List.mem_map_of_mem h1)))).imp_left And.left
  · exact (siteOk_target (hwf.2 (pid, p) hmem _ (toksChoices_nestedSites p oc.c h2))).imp_left And.left

mutual
theorem tokJumps_sites (src : String) : ∀ (t : Tok) (x : String), x ∈ tokJumps t →
    ∃ a, (⟨src, x, a, true, true⟩ : CallSite) ∈ tokSites src t := by
  intro t x h
  cases t with
  | jump tg a => exact ⟨a, List.mem_singleton.mp h ▸ List.mem_singleton_self _⟩
  | cond bs => exact branchesJumps_sites src bs x h
  | loop _ _ body chs => exact (toksJumps_sites src body x h).imp fun _ => List.mem_append_right _
  | _ => exact absurd h List.not_mem_nil
theorem toksJumps_sites (src : String) : ∀ (ts : List Tok) (x : String), x ∈ toksJumps ts →
    ∃ a, (⟨src, x, a, true, true⟩ : CallSite) ∈ toksSites src ts
  | t :: ts, x, h => by
      rcases List.mem_append.mp h with h | h
      · exact (tokJumps_sites src t x h).imp fun _ => List.mem_append_left _
      · exact (toksJumps_sites src ts x h).imp fun _ => List.mem_append_right _
theorem branchesJumps_sites (src : String) : ∀ (bs : List Branch) (x : String), x ∈ branchesJumps bs →
    ∃ a, (⟨src, x, a, true, true⟩ : CallSite) ∈ branchesSites src bs
  | .mk _ body chs :: bs, x, h => by
      rcases List.mem_append.mp h with h | h
      · exact (toksJumps_sites src body x h).imp fun _ ha => List.mem_append_left _ (List.mem_append_right _ ha)
      · exact (branchesJumps_sites src bs x h).imp fun _ => List.mem_append_right _
end

theorem toksJumps_eq_flatMap : ∀ ts : List Tok, toksJumps ts = ts.flatMap tokJumps
  | [] => rfl
  | t :: ts => (congrArg (tokJumps t ++ ·) (toksJumps_eq_flatMap ts)).trans List.flatMap_cons.symm

/-- a jump target found at any depth is a top-level jump site or a nested site of the passage -/
theorem toksJumps_site (p : Passage) (x : String) (h : x ∈ toksJumps p.content) :
    ∃ a, (⟨p.id, x, a, false, true⟩ : CallSite) ∈ topSites p ∨ (⟨p.id, x, a, true, true⟩ : CallSite) ∈ nestedSites p := by
  obtain ⟨t, ht, hx⟩ := List.mem_flatMap.mp (toksJumps_eq_flatMap _ ▸ h)
  cases t with
  | jump tg a =>
    cases List.mem_singleton.mp hx
    exact ⟨a, .inl (List.mem_append_right _ (List.mem_filterMap.mpr ⟨_, ht, rfl⟩))⟩
  | _ => exact (tokJumps_sites p.id _ x hx).imp fun _ ha => .inr (List.mem_flatMap.mpr ⟨_, ht, ha⟩)

/-- … and every jump a rendering reports (inside `@if` / `@for` or at the top level) names a passage that exists -/
theorem wfAll_jump_target_exists (c : ECfg S) (parse : String → Option (Nat × List String))
    (hwf : wfAll c.story parse = true) (pid : String) (p : Passage) (l : Live S.V) (o : Output S.V)
    (hp : c.story.passage? pid = some p) (hmem : (pid, p) ∈ c.story.passages)
    (h : (renderPassage c pid l).2 = .ok o) :
    ∀ t, o.jump = some t → (c.story.passage? t).isSome = true := by
  intro t ht
  simp only [wfAll, wfTop, Bool.and_eq_true, List.all_eq_true] at hwf
  obtain ⟨a, ha | ha⟩ := toksJumps_site p t ((renderPassage_in_graph c pid l p o hp h).2 t ht)
  · exact (siteOk_target (hwf.1.2 (pid, p) hmem _ ha)).resolve_left fun h => Bool.noConfusion h.2
  · exact (siteOk_target (hwf.2 (pid, p) hmem _ ha)).resolve_left fun h => Bool.noConfusion h.2

end Bardic
