import Bardic.Parser.Core
import Proofs.C17
/-!
# C17 on the text-level parser: a trailing `// comment` on a directive line is invisible to `parse`

`strip_directive_comments` is the first thing `parse` does.  For a directive line `pad ++ body` (any indentation `pad`,
a body that starts and ends with a non-blank character, holds no `/` or `\`, and starts with one of the directive
prefixes the pre-pass knows — `@endif`, `@endfor`, `@endpy`, `@py`, `@else`, `@join`, `@hook `, `@unhook `, `@start `,
`@metadata`, `->`, `>>`), appending ` // anything` (not starting with `=`) gives exactly the same pre-pass result: the same output
line and the same "inside a Python block" state for the lines that follow (`directive_comment_invisible`).
Everything after the pre-pass sees identical lines, so the whole parse is the same (`parseLines_comment_invisible`).

"Wherever the line stands" reads the pre-pass as one step per line (`sdcStep`, `sdcGo_cons`); `sdcGo_len` and
`sdcStep_sublist` (one line out per line in, each a sublist of the line read) serve `ParserSpec` and `C14b` too.
-/
namespace Bardic.Parser

theorem isPrefixL_append (p s t : List Char) (h : isPrefixL p s = true) : isPrefixL p (s ++ t) = true := by
  fun_induction isPrefixL p s with
  | case1 => rfl
  | case2 => cases h
  | case3 a as b bs ih =>
    obtain ⟨h1, h2⟩ := Bool.and_eq_true_iff.mp h
    exact Bool.and_eq_true_iff.mpr ⟨h1, ih h2⟩

theorem sw_append (s t : Line) (p : String) (h : sw s p = true) : sw (s ++ t) p = true := isPrefixL_append _ _ _ h

theorem swAny_append (s t : Line) (ps : List String) (h : swAny s ps = true) : swAny (s ++ t) ps = true := by
  unfold swAny at h ⊢
  simp only [List.any_eq_true] at h ⊢
  obtain ⟨p, hp, hs⟩ := h
  exact ⟨p, hp, sw_append s t p hs⟩

/-- a directive line: indentation, then a body that begins and ends with a visible character -/
structure Directive (pad body : Line) : Prop where
  pad_ws : ∀ c ∈ pad, isPyWs c = true
  head : ∃ c r, body = c :: r ∧ isPyWs c = false
  no_trail : rstripL body = body
  no_slash : NoSlash (pad ++ body)

theorem Directive.body_ne {pad body : Line} (d : Directive pad body) : body ≠ [] := by
  obtain ⟨c, r, h, _⟩ := d.head; rw [h]; simp

theorem Directive.lstripL_body {pad body : Line} (d : Directive pad body) : lstripL body = body := by
  obtain ⟨c, r, rfl, hc⟩ := d.head
  rw [lstripL, if_neg (Bool.eq_false_iff.mp hc)]

theorem stripL_directive {pad body : Line} (d : Directive pad body) : stripL (pad ++ body) = body := by
  rw [stripL, lstripL_ws_append pad body d.pad_ws, d.lstripL_body, d.no_trail]

theorem ws_of_lstripL_nil {l : List Char} (h : lstripL l = []) : ∀ c ∈ l, isPyWs c = true := by
  fun_induction lstripL l with
  | case1 => exact fun _ h => nomatch h
  | case2 c r hc ih => exact List.forall_mem_cons.mpr ⟨hc, ih h⟩
  | case3 => cases h

/-- the comment suffix ` // c` has a visible character, whatever `c` is -/
theorem rstripL_suffix_ne (c : Line) : rstripL (' ' :: '/' :: '/' :: c) ≠ [] := fun h =>
  absurd (ws_of_lstripL_nil (List.reverse_eq_nil_iff.mp h) '/' (List.mem_reverse.mpr (.tail _ (.head _)))) (by decide +kernel)

theorem stripL_directive_commented {pad body : Line} (d : Directive pad body) (c : Line) :
    stripL (pad ++ body ++ ' ' :: '/' :: '/' :: c) = body ++ rstripL (' ' :: '/' :: '/' :: c) := by
  have hb : lstripL body ≠ [] := d.lstripL_body.symm ▸ d.body_ne
  rw [stripL, List.append_assoc, lstripL_ws_append pad _ d.pad_ws, lstripL_append_nonblank body _ hb, d.lstripL_body]
  exact rstripL_append_nonblank _ _ (rstripL_suffix_ne c)

theorem rstripL_directive {pad body : Line} (d : Directive pad body) : rstripL (pad ++ body) = pad ++ body := by
  rw [rstripL_append_nonblank pad body (d.no_trail.symm ▸ d.body_ne), d.no_trail]

/-- **one line of the pre-pass**: with and without the trailing comment the pre-pass continues identically -/
theorem directive_comment_invisible {pad body : Line} (d : Directive pad body) (c : Line) (hc : c.head? ≠ some '=')
    (closer : Option String)
    (hcm : match closer with | none => swAny body commentable = true | some cl => sw body cl = true)
    (rest acc : List Line) :
    stripDirectiveCommentsGo ((pad ++ body ++ ' ' :: '/' :: '/' :: c) :: rest) closer acc =
    stripDirectiveCommentsGo ((pad ++ body) :: rest) closer acc := by
  conv => lhs; unfold stripDirectiveCommentsGo
  conv => rhs; unfold stripDirectiveCommentsGo
  -- what does not depend on the state: the stripped lines, and the line emitted once the comment test has passed
  simp only [stripL_directive_commented d c, stripL_directive d, strip_comment_suffix (pad ++ body) c d.no_slash hc,
    strip_noslash _ d.no_slash, List.isEmpty_nil, List.isEmpty_cons, Bool.false_eq_true, if_false, if_true,
    rstripL_ws_append _ [' '] (by decide), rstripL_directive d]
  -- the comment test passes on both lines, in either state
  cases closer with
  | none => simp only [swAny_append _ _ _ hcm, show swAny body commentable = true from hcm, if_true]
  | some cl => simp only [sw_append _ _ _ hcm, show sw body cl = true from hcm, if_true]

/-- one line of the pre-pass: the line it emits and the Python-block state it leaves -/
def sdcStep (closer : Option String) (line : Line) : Line × Option String :=
  let st := stripL line
  let cm := match closer with
    | none => swAny st commentable
    | some c => sw st c
  let line' :=
    if cm then
      let p := strip line
      if p.2.isEmpty then line else rstripL p.1
    else line
  let st' := stripL line'
  let closer' := match closer with
    | none => if sw st' "@py" then some "@endpy" else if sw st' "<<py" then some ">>" else none
    | some c => if strEq st' c then none else some c
  (line', closer')

theorem sdcGo_cons (line : Line) (rest : List Line) (closer : Option String) (acc : List Line) :
    stripDirectiveCommentsGo (line :: rest) closer acc =
    stripDirectiveCommentsGo rest (sdcStep closer line).2 ((sdcStep closer line).1 :: acc) := by
  rfl

/-- the pre-pass emits one line per line -/
theorem sdcGo_len : ∀ (ls : List Line) (closer : Option String) (acc : List Line),
    (stripDirectiveCommentsGo ls closer acc).length = acc.length + ls.length
  | [], closer, acc => by unfold stripDirectiveCommentsGo; exact List.length_reverse
  | line :: rest, closer, acc => by
    rw [sdcGo_cons, sdcGo_len rest, List.length_cons, List.length_cons, Nat.add_right_comm, Nat.add_assoc]

/-- the line emitted is the line itself, or what is in front of its trailing comment -/
theorem sdcStep_sublist (closer : Option String) (line : Line) : (sdcStep closer line).1.Sublist line := by
  have h : ∀ cm : Bool,
      (if cm then if (strip line).2.isEmpty then line else rstripL (strip line).1 else line).Sublist line := fun cm => by
    cases cm
    · exact .refl _
    · rw [if_pos rfl]
      split
      · exact .refl _
      · exact (rstripL_sublist _).trans (strip_sublist line)
  exact h _

/-- the Python-block state after a prefix of the text -/
def closerAfter : List Line → Option String → Option String
  | [], c => c
  | l :: r, c => closerAfter r (sdcStep c l).2

/-- what makes a directive line commentable in a given state: outside Python blocks one of the known directive prefixes,
inside one the block's own closer -/
def Commentable (closer : Option String) (body : Line) : Prop :=
  match closer with
  | none => swAny body commentable = true
  | some cl => sw body cl = true

/-- **anywhere in a text**: a trailing comment on a directive line (commentable in the state the pre-pass is in when it
gets there) does not change what the pre-pass returns -/
theorem prepass_comment_invisible {pad body : Line} (d : Directive pad body) (c : Line) (hc : c.head? ≠ some '=') :
    ∀ (pre rest : List Line) (closer : Option String) (acc : List Line),
      Commentable (closerAfter pre closer) body →
      stripDirectiveCommentsGo (pre ++ (pad ++ body ++ ' ' :: '/' :: '/' :: c) :: rest) closer acc =
      stripDirectiveCommentsGo (pre ++ (pad ++ body) :: rest) closer acc
  | [], rest, closer, acc, h => by
    exact directive_comment_invisible d c hc closer (by cases closer <;> exact h) rest acc
  | x :: pre, rest, closer, acc, h => by
    simp only [List.cons_append]
    rw [sdcGo_cons, sdcGo_cons]
    exact prepass_comment_invisible d c hc pre rest _ _ h

/-- **C17 for the whole parser model**: the story (or diagnostic) `parse` answers is the same with and without a trailing
`// comment` on a directive line, wherever the line stands, whatever its indentation, whatever the comment says
(unless it starts with `=`: `//=` is an operator) -/
theorem parseLines_comment_invisible (O : PyOracle) {pad body : Line} (d : Directive pad body) (c : Line)
    (hc : c.head? ≠ some '=') (pre rest : List Line) (h : Commentable (closerAfter pre none) body) :
    parseLines O (pre ++ (pad ++ body ++ ' ' :: '/' :: '/' :: c) :: rest) = parseLines O (pre ++ (pad ++ body) :: rest) := by
  have : stripDirectiveComments (pre ++ (pad ++ body ++ ' ' :: '/' :: '/' :: c) :: rest) =
      stripDirectiveComments (pre ++ (pad ++ body) :: rest) := prepass_comment_invisible d c hc pre rest none [] h
  unfold parseLines
  rw [this]

/-- the hypotheses are met: `  @endif // end of the block`, first line of a text -/
example : Directive [' ', ' '] ['@', 'e', 'n', 'd', 'i', 'f'] ∧ Commentable (closerAfter [] none) ['@', 'e', 'n', 'd', 'i', 'f'] := by
  refine ⟨⟨by decide +kernel, ⟨'@', ['e', 'n', 'd', 'i', 'f'], rfl, by decide +kernel⟩, by decide +kernel, ?_⟩, ?_⟩
  · show ∀ c ∈ [' ', ' ', '@', 'e', 'n', 'd', 'i', 'f'], c ≠ '/' ∧ c ≠ '\\'
    decide +kernel
  · show swAny ['@', 'e', 'n', 'd', 'i', 'f'] commentable = true
    decide +kernel

end Bardic.Parser
