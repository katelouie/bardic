import Proofs.Lemmas.WF
/-!
# C07 — parameters bind like Python calls, are local, never leak or linger
-/
namespace Bardic
variable {S : Sem}

/-! ## the parameter scope ends when navigation completes **or fails** -/

theorem goto_scopes_balanced (c : ECfg S) (fuel : Nat) (spec : String) (l : Live S.V) :
    (goto c fuel spec l).1.scopes = l.scopes := (goto_frame c fuel spec l).scopes

theorem restore_scopes (c : ECfg S) (s : Snap S.V) (l : Live S.V) :
    (restore c s l).1.scopes = l.scopes := by
  fun_cases restore c s l
  case case1 l1 _ _ =>
    unfold l1
    cases c.variant <;> rfl
  case case2 l1 _ _ _ hp | case3 l1 _ _ _ hp =>
    refine (rel_of_eq_fst hp (renderPassage_rsOnly ..)).scopes.trans ?_
    unfold l1
    cases c.variant <;> rfl

/-- **every API call leaves the scope stack as it found it**, successful or not -/
theorem step_scopes (c : ECfg S) (e : Eng S.V) (op : Op S.V) :
    (step c e op).1.live.scopes = e.live.scopes := by
  cases op with
  | choose i =>
    show (e.doChoose c i).1.live.scopes = _
    rcases doChoose_cases c e i with ⟨x, h⟩ | ⟨cur, hc, h0, h1⟩
    · rw [h]
    · simp only [doChoose_eq c e i cur hc h0 h1, markUsed_eq]
      exact (chooseNav_frame c _ _).scopes
  | undo =>
    show (e.doUndo c).1.live.scopes = _
    fun_cases Eng.doUndo c e
    case case1 => rfl
    case case2 hr | case3 hr => exact (congrArg (·.1.scopes) hr).symm.trans (restore_scopes c _ _)
  | redo =>
    show (e.doRedo c).1.live.scopes = _
    fun_cases Eng.doRedo c e
    case case1 => rfl
    case case2 hr | case3 hr => exact (congrArg (·.1.scopes) hr).symm.trans (restore_scopes c _ _)
  | goto spec =>
    rw [step_goto]
    exact (goto_frame c _ _ _).scopes
  | load a =>
    show (e.doLoad c a).1.live.scopes = _
    fun_cases Eng.doLoad c a e
    case case1 | case2 | case3 => rfl
    case case4 l1 _ _ hg | case5 l1 _ _ hg =>
      refine (rel_of_eq_fst hg (goto_frame c _ _ _)).scopes.trans ?_
      unfold l1
      cases c.variant <;> rfl
  | _ => rfl

/-- in every reachable state no parameter scope is left over -/
theorem reachable_no_scope (c : ECfg S) (e0 : Eng S.V) (h0 : Eng.init c = .ok e0) (ops : List (Op S.V)) :
    (run c e0 ops).1.live.scopes = [] := by
  obtain ⟨o, l, hg, rfl⟩ := init_ok c e0 h0
  exact run_induct (P := fun e => e.live.scopes = []) c (fun e op h => (step_scopes c e op).trans h) ops _
    (rel_of_eq_fst hg (goto_frame c _ _ _)).scopes

/-! ## parameters never appear in or alter the global variables -/

/-- write-back after a `~` statement never creates or changes a variable named like a parameter of
the current scope, nor one whose name starts with an underscore (`_state`, `_local`, …) -/
theorem writeBack_skips {V} (cx : Env V) (sk : List String) (ctx' vars : Env V) (k : String)
    (hk : sk.contains k = true ∨ startsUnderscore k = true) :
    Env.get? (writeBack cx sk vars ctx') k = Env.get? vars k := by
  -- an invariant of the loop over the statement's namespace: no pass writes `k`, since for `k` the skip test holds
  refine List.foldlRecOn (motive := (Env.get? · k = Env.get? vars k)) ctx' _ rfl fun acc ih kv _ => ?_
  split
  · exact ih
  · rename_i hc
    refine (Env.get?_set_ne acc _ _ _ fun heq => hc ?_).trans ih
    subst heq
    rcases hk with h | h
    · rw [h, Bool.or_true]
    · rw [h]; rfl

end Bardic
