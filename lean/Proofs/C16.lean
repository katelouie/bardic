import Bardic.Own
import Bardic.Engine.Api
/-!
# C16 — determinism and non-sharing

* Determinism: the model's `step`/`run`/`goto` are functions; equal inputs give equal outputs
  (`run_deterministic` merely states it — the content is in the tie to the code, which compares two
  runs, two processes with different hash seeds, and two engines sharing one story object).
* Non-sharing: `regions_separate` — in the ownership model of the engine's copy discipline no
  region is ever reachable from two different roots, for every history of operations.
-/
namespace Bardic.Own

def Disj (a b : Root) : Prop := ∀ x ∈ a.regions, x ∉ b.regions

theorem Disj.symm {a b : Root} (h : Disj a b) : Disj b a := fun x hx hxa => h x hxa hx

/-- all regions allocated so far are below `next`, and distinct roots hold disjoint regions -/
structure Inv (h : Heap) : Prop where
  bounded : ∀ r ∈ h.roots, ∀ x ∈ r.regions, x < h.next
  separate : h.roots.Pairwise Disj
  /-- there is at most one live game -/
  oneLive : h.roots.Pairwise (fun a b => ¬ (a.kind = .live ∧ b.kind = .live))

theorem fresh_range (h : Heap) (n : Nat) : ∀ x ∈ fresh h n, h.next ≤ x ∧ x < h.next + n := by
  intro x hx
  simp only [fresh, List.mem_map, List.mem_range] at hx
  obtain ⟨k, hk, rfl⟩ := hx
  exact ⟨Nat.le_add_left _ _, by rw [Nat.add_comm]; exact Nat.add_lt_add_left hk _⟩

/-- The shape most operations share: keep a sub-collection of the roots and add one root that is bounded, shares nothing
with those kept and is not a second live game. -/
theorem Inv.add_root {h : Heap} (hi : Inv h) {roots' : List Root} (hsub : roots'.Sublist h.roots) (r : Root) {next' : Nat}
    (hn : h.next ≤ next') (hb : ∀ x ∈ r.regions, x < next') (hd : ∀ a ∈ roots', Disj a r)
    (hk : r.kind = .live → ∀ a ∈ roots', a.kind ≠ .live) : Inv { next := next', roots := roots' ++ [r] } where
  bounded a ha x hx := by
    rcases List.mem_append.mp ha with ha | ha
    · exact Nat.lt_of_lt_of_le (hi.bounded a (hsub.subset ha) x hx) hn
    · exact hb x (List.mem_singleton.mp ha ▸ hx)
  separate := List.pairwise_append.mpr ⟨hi.separate.sublist hsub, List.pairwise_singleton _ _,
    fun a ha b hb => List.mem_singleton.mp hb ▸ hd a ha⟩
  oneLive := List.pairwise_append.mpr ⟨hi.oneLive.sublist hsub, List.pairwise_singleton _ _,
    fun a ha b hb hab => hk (List.mem_singleton.mp hb ▸ hab.2) a ha hab.1⟩

/-- fresh regions lie above everything allocated so far -/
theorem Inv.above {h : Heap} (hi : Inv h) (n : Nat) {r : Root} (hr : r ∈ h.roots) {x : Rid} (hx : x ∈ r.regions) :
    x ∉ fresh h n := fun hf => Nat.not_lt.mpr (fresh_range h n x hf).1 (hi.bounded r hr x hx)

/-- a deep copy: the new root is made of fresh regions -/
theorem add_fresh (h : Heap) (hi : Inv h) (roots' : List Root) (hsub : roots'.Sublist h.roots) (k : RootKind) (n : Nat)
    (hk : k = .live → ∀ r ∈ roots', r.kind ≠ .live) :
    Inv { next := h.next + n, roots := roots' ++ [⟨k, fresh h n⟩] } :=
  hi.add_root hsub ⟨k, fresh h n⟩ (Nat.le_add_right _ _) (fun x hx => (fresh_range h n x hx).2)
    (fun _ ha _ hx => hi.above n (hsub.subset ha) hx) hk

theorem not_live_of_mem_filter {l : List Root} {r : Root} (hr : r ∈ l.filter (·.kind != .live)) : r.kind ≠ .live :=
  bne_iff_ne.mp (List.mem_filter.mp hr).2

theorem pairwise_other_index {l : List Root} (hp : l.Pairwise Disj) (i j : Nat) (hi : i < l.length) (hj : j < l.length)
    (hne : i ≠ j) : Disj l[i] l[j] := by
  rw [List.pairwise_iff_getElem] at hp
  rcases Nat.lt_or_gt_of_ne hne with h | h
  · exact hp i j hi hj h
  · exact (hp j i hj hi h).symm

/-- what `liveAlloc` does to each root -/
def grow (h : Heap) (n : Nat) (r : Root) : Root :=
  if r.kind == .live then { r with regions := r.regions ++ fresh h n } else r

theorem grow_kind (h : Heap) (n : Nat) (r : Root) : (grow h n r).kind = r.kind := by
  unfold grow; split <;> rfl

theorem mem_grow {h : Heap} {n : Nat} {r : Root} {x : Rid} (hx : x ∈ (grow h n r).regions) :
    x ∈ r.regions ∨ r.kind = .live ∧ x ∈ fresh h n := by
  unfold grow at hx
  split at hx
  · exact (List.mem_append.mp hx).imp_right fun hf => ⟨eq_of_beq ‹_›, hf⟩
  · exact Or.inl hx

theorem step_inv (h : Heap) (op : AOp) (hi : Inv h) : Inv (step h op) := by
  fun_cases step h op with
  | case1 n | case2 n | case3 n => exact add_fresh h hi h.roots (List.Sublist.refl _) _ n nofun
  | case4 n => exact add_fresh h hi _ List.filter_sublist _ n fun _ r hr => not_live_of_mem_filter hr
  | case5 | case7 => exact hi
  | case6 i s hs =>
    -- the snapshot root `s` leaves the collection, so what it held is shared with no root that stays
    obtain ⟨hlt, rfl⟩ := List.getElem?_eq_some_iff.mp hs
    refine hi.add_root (List.filter_sublist.trans (List.eraseIdx_sublist _ _)) ⟨.live, _⟩ (Nat.le_refl _)
      (hi.bounded h.roots[i] (List.getElem_mem hlt)) (fun a ha => ?_) fun _ a ha => not_live_of_mem_filter ha
    obtain ⟨j, hj, hne, rfl⟩ := List.mem_eraseIdx_iff_getElem.mp (List.mem_filter.mp ha).1
    exact pairwise_other_index hi.separate j i hj hlt hne
  | case8 n =>
    -- fresh regions go to the live root only
    show Inv { next := h.next + n, roots := h.roots.map (grow h n) }
    refine ⟨fun r hr x hx => ?_, ?_, ?_⟩
    · obtain ⟨r0, hr0, rfl⟩ := List.mem_map.mp hr
      rcases mem_grow hx with hx | ⟨_, hx⟩
      · exact Nat.lt_of_lt_of_le (hi.bounded r0 hr0 x hx) (Nat.le_add_right _ _)
      · exact (fresh_range h n x hx).2
    · refine List.pairwise_map.mpr ((hi.separate.and hi.oneLive).imp_of_mem fun {a b} ha hb ⟨hd, hl⟩ x hxa hxb => ?_)
      rcases mem_grow hxa with hxa | ⟨la, fa⟩ <;> rcases mem_grow hxb with hxb | ⟨lb, fb⟩
      · exact hd x hxa hxb
      · exact hi.above n ha hxa fb
      · exact hi.above n hb hxb fa
      · exact hl ⟨la, lb⟩
    · exact List.pairwise_map.mpr (hi.oneLive.imp fun hab => by rwa [grow_kind, grow_kind])

/-- the live game is a deep copy of nothing the story holds: `init` adds it, freshly allocated, to the story alone -/
theorem init_inv (nStory nLive : Nat) : Inv (init nStory nLive) :=
  have story : Inv ⟨nStory, [⟨.story, List.range nStory⟩]⟩ :=
    ⟨fun _ hr x hx => by cases List.mem_singleton.mp hr; exact List.mem_range.mp hx, List.pairwise_singleton _ _,
      List.pairwise_singleton _ _⟩
  add_fresh _ story _ (List.Sublist.refl _) .live nLive fun _ _ hr => List.mem_singleton.mp hr ▸ nofun

/-- **no mutable data is ever shared** between the story, the live game, any undo/redo restore point
and any save document handed out or taken in — after every history of operations, of any length -/
theorem regions_separate (nStory nLive : Nat) (ops : List AOp) :
    Inv (ops.foldl step (init nStory nLive)) :=
  List.foldlRecOn ops step (init_inv nStory nLive) fun h hi op _ => step_inv h op hi

/-- the story's regions are never written: no operation changes the story root -/
theorem story_root_constant (h : Heap) (op : AOp) (r : Root) (hr : r ∈ h.roots) (hk : r.kind = .story) :
    r ∈ (step h op).roots := by
  have hnl : (r.kind != .live) = true := hk ▸ rfl
  fun_cases step h op with
  | case1 n | case2 n | case3 n => exact List.mem_append_left _ hr
  | case4 n => exact List.mem_append_left _ (List.mem_filter.mpr ⟨hr, hnl⟩)
  | case5 | case7 => exact hr
  | case6 i s hs hsk =>
    -- the root that goes is a snapshot, so it is not `r`
    obtain ⟨hlt, rfl⟩ := List.getElem?_eq_some_iff.mp hs
    obtain ⟨j, hj, rfl⟩ := List.getElem_of_mem hr
    refine List.mem_append_left _ (List.mem_filter.mpr ⟨List.mem_eraseIdx_iff_getElem.mpr ⟨j, hj, fun e => ?_, rfl⟩, hnl⟩)
    subst e
    rw [hk] at hsk
    cases hsk
  | case8 n => exact List.mem_map.mpr ⟨r, hr, if_neg (hk ▸ nofun)⟩

end Bardic.Own

namespace Bardic
variable {S : Sem}

/-- the model is a function: equal stories, states and calls give equal results (the content of the
determinism clause lies in the tie to the code: the harness compares runs, engines and hash seeds) -/
theorem run_deterministic (c : ECfg S) (e : Eng S.V) (ops : List (Op S.V)) :
    ∀ r1 r2, r1 = run c e ops → r2 = run c e ops → r1 = r2 := by
  intro r1 r2 h1 h2; rw [h1, h2]

end Bardic
