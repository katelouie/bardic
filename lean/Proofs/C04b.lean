import Proofs.Lemmas.WF
import Proofs.C05
/-!
# C04 over whole histories — the engine refines a zipper of observations

`Zip` is the simplest possible specification of undo/redo: a list of past observations (newest first,
at most 50), the present one, and a list of future ones.  `Eng.abs` forgets everything but the
observations (`Snap` = position, variables, used choices, hooks, `@join` progress, displayed output).
`abs_step` shows that every API call of the engine model is the zipper's move, for every story, every
`Sem` and every well-formed state of the main engine; `abs_run` lifts it to every history of calls from every
reachable state.  The laws of the property are then facts about `Zip` alone (`Zip.undo_choose`,
`Zip.redo_undo`, `Zip.undo_redo`, `Zip.choose_keeps_older`).
-/
namespace Bardic
variable {S : Sem}

structure Zip (α : Type) where
  past : List α
  present : α
  future : List α

namespace Zip
variable {α : Type}

def undo (z : Zip α) : Zip α :=
  match z.past with
  | [] => z
  | p :: ps => ⟨ps, p, z.present :: z.future⟩

def redo (z : Zip α) : Zip α :=
  match z.future with
  | [] => z
  | f :: fs => ⟨pushCap z.present z.past, f, fs⟩

/-- an accepted choice: the present becomes the newest restore point, the future is discarded -/
def choose (z : Zip α) (new : α) : Zip α := ⟨pushCap z.present z.past, new, []⟩

/-- an operation that only replaces the present (direct navigation, reset of one-time choices) -/
def replace (z : Zip α) (new : α) : Zip α := ⟨z.past, new, z.future⟩

theorem undo_choose (z : Zip α) (new : α) :
    (z.choose new).undo = ⟨z.past.take (undoCap - 1), z.present, [new]⟩ := by
  simp [choose, undo, pushCap_head]

theorem redo_undo (z : Zip α) (p : α) (ps : List α) (h : z.past = p :: ps) (hc : z.past.length ≤ undoCap) :
    z.undo.redo = z := by
  obtain ⟨past, present, future⟩ := z
  subst h
  have : (p :: ps).take undoCap = p :: ps := List.take_of_length_le hc
  simp [undo, redo, pushCap, this]

theorem undo_redo (z : Zip α) (f : α) (fs : List α) (h : z.future = f :: fs) (hc : z.past.length < undoCap) :
    z.redo.undo = z := by
  obtain ⟨past, present, future⟩ := z
  subst h
  have : (present :: past).take undoCap = present :: past :=
    List.take_of_length_le (Nat.succ_le_of_lt hc)
  simp [redo, undo, pushCap, this]

/-- later play never alters an earlier restore point: an accepted choice keeps every older restore
point, in order, one place further down (the 50th falls off the end) -/
theorem choose_keeps_older (z : Zip α) (new : α) :
    (z.choose new).past = z.present :: z.past.take (undoCap - 1) := by
  simp [choose, pushCap_head]

/-- undo and redo only move restore points between the two stacks and the present: none is changed -/
theorem undo_keeps (z : Zip α) (p : α) (ps : List α) (h : z.past = p :: ps) :
    z.undo.past = ps ∧ z.undo.present = p ∧ z.undo.future = z.present :: z.future := by
  simp [undo, h]

end Zip

example : (⟨[1, 2], 3, [4]⟩ : Zip Nat).undo.redo = ⟨[1, 2], 3, [4]⟩ := by rfl
example : ((⟨[1, 2], 3, [4]⟩ : Zip Nat).choose 9).undo = ⟨[1, 2], 3, [9]⟩ := by rfl

def Eng.abs (e : Eng S.V) : Zip (Snap S.V) := ⟨e.undo, Snap.of e.live, e.redo⟩

/-- what a zipper does on each API call, given the observation `new` the call ends in -/
def Zip.apply (z : Zip (Snap S.V)) (accepted : Bool) (new : Snap S.V) : Op S.V → Zip (Snap S.V)
  | .choose _ => if accepted then z.choose new else z
  | .undo => z.undo
  | .redo => z.redo
  | .goto _ => z.replace new
  | .resetOneTime => z.replace new
  | .load _ => if accepted then ⟨[], new, []⟩ else z
  | _ => z

/-- was the call accepted (a choice index in range; a save document that passes validation)?  (No output displayed —
unreachable in a well-formed state — counts as refused, as `choose` itself treats it.) -/
def accepted (c : ECfg S) (e : Eng S.V) : Op S.V → Bool
  | .choose i =>
    match e.live.out with
    | some cur => decide (0 ≤ i) && decide (i < cur.choices.length)
    | none => false
  | .load (.doc d) => (c.story.passage? (d.cur.getD "Start")).isSome
  | .load _ => false
  | _ => true

theorem doUndo_abs (c : ECfg S) (hv : c.variant = .main) (e : Eng S.V) (hw : e.WF) :
    (e.doUndo c).1.abs = e.abs.undo := by
  cases hu : e.undo with
  | nil => rw [undo_empty_noop c e hu]; simp [Eng.abs, Zip.undo, hu]
  | cons prev rest =>
    have hp : prev.out.isSome := hw.undo prev (hu ▸ List.mem_cons_self)
    rw [doUndo_eq c e prev rest hu hp]
    simp [Eng.abs, Zip.undo, hu, restore_obs c hv prev e.live hp]

theorem doRedo_abs (c : ECfg S) (hv : c.variant = .main) (e : Eng S.V) (hw : e.WF) :
    (e.doRedo c).1.abs = e.abs.redo := by
  cases hu : e.redo with
  | nil => rw [redo_empty_noop c e hu]; simp [Eng.abs, Zip.redo, hu]
  | cons nxt rest =>
    have hp : nxt.out.isSome := hw.redo nxt (hu ▸ List.mem_cons_self)
    rw [doRedo_eq c e nxt rest hu hp]
    simp [Eng.abs, Zip.redo, hu, restore_obs c hv nxt e.live hp]

/-- **refinement, one call**: every API call moves the abstraction exactly as the zipper moves, where
the only thing the zipper is told is the observation the call ends in -/
theorem abs_step (c : ECfg S) (hv : c.variant = .main) (e : Eng S.V) (hw : e.WF) (op : Op S.V) :
    (step c e op).1.abs = e.abs.apply (accepted c e op) (Snap.of (step c e op).1.live) op := by
  cases op with
  | undo => exact doUndo_abs c hv e hw
  | redo => exact doRedo_abs c hv e hw
  | choose i =>
    obtain ⟨cur, hout⟩ := Option.isSome_iff_exists.mp hw.live
    show (e.doChoose c i).1.abs = if accepted c e (.choose i) then _ else _
    cases ha : accepted c e (.choose i) with
    | true =>
      -- (`accepted.eq_def`: the definition as one equation; named `accepted`, its equations case by case are derived first)
      simp only [accepted.eq_def, hout, Bool.and_eq_true, decide_eq_true_eq] at ha
      have hh := doChoose_history c e i cur hout ha.1 ha.2
      rw [Eng.abs, hh.1, hh.2]
      rfl
    | false =>
      simp only [accepted.eq_def, hout, Bool.and_eq_false_iff, decide_eq_false_iff_not] at ha
      obtain ⟨msg, hm⟩ := choose_out_of_range_noop c e i cur hout (ha.imp Int.not_le.mp Int.not_lt.mp)
      rw [hm]
      rfl
  | goto spec =>
    rw [step_goto]
    rfl
  | load a =>
    cases a with
    | notDict => rfl
    | noVersion d => rfl
    | doc d =>
      show _ = e.abs.apply (c.story.passage? (d.cur.getD "Start")).isSome _ _
      cases hp : c.story.passage? (d.cur.getD "Start") with
      | none =>
        obtain ⟨m, hm⟩ := load_rejects_unknown_passage c e d hp
        rw [hm]
        rfl
      | some p =>
        have hc := load_clears_history c e d (by rw [hp]; rfl)
        rw [Eng.abs, hc.1, hc.2]
        rfl
  | _ => rfl

/-- the zipper run along a history: at each call it is told whether the call was accepted and which
observation it ended in, nothing else -/
def Zip.runWith (z : Zip (Snap S.V)) : List (Bool × Snap S.V × Op S.V) → Zip (Snap S.V)
  | [] => z
  | (a, n, op) :: rest => (z.apply a n op).runWith rest

/-- the trace of (accepted, observation, call) along a run of the engine model -/
def trace (c : ECfg S) : Eng S.V → List (Op S.V) → List (Bool × Snap S.V × Op S.V)
  | _, [] => []
  | e, op :: ops => (accepted c e op, Snap.of (step c e op).1.live, op) :: trace c (step c e op).1 ops

/-- **refinement, every history**: from every well-formed state (hence from every reachable one,
`run_WF`), after any sequence of calls the engine's restore points, present observation and redo
points are exactly the zipper's -/
theorem abs_run (c : ECfg S) (hv : c.variant = .main) :
    ∀ (ops : List (Op S.V)) (e : Eng S.V), e.WF →
      (run c e ops).1.abs = e.abs.runWith (trace c e ops) := by
  intro ops
  induction ops with
  | nil => intro e _; rfl
  | cons op ops ih =>
    intro e hw
    exact (ih _ (step_WF c e op hw)).trans (congrArg (Zip.runWith · _) (abs_step c hv e hw op))

/-- corollary, stated on the engine: after ANY history from a fresh engine, an accepted choice followed
by `undo` shows exactly the observation that existed before the choice, and a following `redo` shows
exactly what the choice had led to -/
theorem undo_redo_after_any_history (c : ECfg S) (hv : c.variant = .main) (e0 : Eng S.V)
    (h0 : Eng.init c = .ok e0) (ops : List (Op S.V)) (i : Int) :
    let e := (run c e0 ops).1
    accepted c e (.choose i) = true →
    let e1 := (step c e (.choose i)).1
    let e2 := (step c e1 .undo).1
    let e3 := (step c e2 .redo).1
    Snap.of e2.live = Snap.of e.live ∧ Snap.of e3.live = Snap.of e1.live ∧ e3.redo = [] := by
  intro e ha e1 e2 e3
  have hw : e.WF := run_WF c ops e0 (init_WF c e0 h0)
  obtain ⟨cur, hout⟩ := Option.isSome_iff_exists.mp hw.live
  simp only [accepted.eq_def, hout, Bool.and_eq_true, decide_eq_true_eq] at ha
  have hh := doChoose_history c e i cur hout ha.1 ha.2
  have r := redo_undo c hv e1 (step_WF c e _ hw) _ _ (hh.1.trans (pushCap_head ..))
  exact ⟨r.2.1, r.2.2.2.1, r.2.2.2.2.trans hh.2⟩

end Bardic
