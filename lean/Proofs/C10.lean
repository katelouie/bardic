import Proofs.Lemmas.NavInv
/-!
# C10 — `@join` progress: restarts on every entry, advances by one per join choice
-/
namespace Bardic
variable {S : Sem}

theorem renderPassage_pid (c : ECfg S) (pid : String) (l : Live S.V) (o : Output S.V)
    (h : (renderPassage c pid l).2 = .ok o) : o.pid = pid := by
  revert h
  fun_cases renderPassage c pid l <;> intro h <;> cases h
  rfl

/-- the passage a successful navigation ends in has its section index at 0 -/
def JoinReset (res : NRes S (Output S.V)) : Prop := ∀ o, res.2 = .ok o → res.1.joinSec o.pid = 0

theorem JoinReset.error (l : Live S.V) (e : Exc) : JoinReset (l, .error e) := fun _ h => nomatch h

/-- **progress restarts from the first section whenever the passage is entered again** — by
choice, by direct navigation, or through a jump anywhere in a chain -/
theorem goto_joinReset (c : ECfg S) (hv : c.variant = .main) : ∀ (fuel : Nat) (spec : String) (l : Live S.V),
    JoinReset (goto c fuel spec l) :=
  goto_ok_induct .error (fun _ _ h => h) (fun _ jo _ _ h _ ho => by cases ho; exact h jo rfl)
    -- the passage the chain ends in was entered with progress 0 and has only been executed and rendered since
    fun cid l l2 l3 o accC accD he ho o' h' => by
      cases h'
      have h3 : l3.joinIdx = Env.set l.joinIdx cid 0 :=
        (rel_of_eq_fst ho (renderPassage_rsOnly ..)).joinIdx.trans
          ((rel_of_eq_fst he (executePassage_rsOnly ..)).joinIdx.trans (by unfold markEntered; rw [hv]))
      have hpid : o.pid = cid := renderPassage_pid c cid l2 o (by rw [ho])
      show ((List.lookup (mkFinal accC accD o).pid l3.joinIdx).getD 0) = 0
      rw [h3, show (mkFinal accC accD o).pid = cid from hpid]
      exact congrArg (·.getD 0) (Env.get?_set_self l.joinIdx cid 0)

theorem withHookText_joinIdx (l : Live S.V) (r : Output S.V) (h : String) :
    (withHookText l r h).1.joinIdx = l.joinIdx := by
  fun_cases withHookText l r h <;> rfl

/-- a successful `-> @join` choice moves the current passage from section `k` to section `k + 1`
and touches no other passage's progress -/
theorem joinChoice_advances (c : ECfg S) (ch : OChoice) (l : Live S.V) :
    ∀ o, (joinChoice c ch l).2 = .ok o →
    (joinChoice c ch l).1.joinIdx = Env.set l.joinIdx (curStr l.cur) (l.joinSec (curStr l.cur) + 1) := by
  fun_cases joinChoice c ch l
  case case4 hj _ _ _ _ _ _ ht _ _ hw =>
    intro o _
    have h6 := (congrArg (·.1.joinIdx) hw).symm.trans (withHookText_joinIdx ..)
    rw [h6, (rel_of_eq_fst ht (triggerEvent_rsOnly ..)).joinIdx]
    exact congrArg (Env.set · _ _) (rel_of_eq_fst hj (renderFromJoinMarker_rsOnly ..)).joinIdx
  all_goals exact fun _ h => nomatch h

end Bardic
