import Proofs.Lemmas.ParserSpec
/-!
# C11 on the whole text-level parser model: no internal error, and the loops always advance

`parseText O src` (the model of `parse(source)`, `Bardic/Parser/Core.lean`) answers a story, a deliberate
diagnostic (`Fail.diag`: SyntaxError / ValueError), or — in the model's vocabulary — an *internal error*
(`Fail.internal`: a partial Python operation whose guard did not hold: `s.index`, `s[0]`, `lines[i]`,
tuple unpacking, an unbound local), exhausted loop fuel (`Fail.fuel`: a `while` that did not advance; every loop has one
unit of fuel per iteration), or a question the `ast.parse` table cannot answer.

`parseText_no_internal` and `parseText_no_fuel`: for **every** source text and **every** behaviour of CPython's parser
(`O`), an internal error and exhausted fuel never happen — with the fuel `parseText` starts from (three units per line, and three to spare).  Both are
`parseLines_sat` (`Proofs/Lemmas/ParserSpec.lean`) read for one set of admitted failures.  `parseText_total` puts the two together.
-/
namespace Bardic.Parser

/-- an outcome that is not an internal error -/
structure Good {α} (x : PM α) : Prop where
  h : ∀ w, x ≠ .error (.internal w)

/-- not out of fuel, and a postcondition on the value -/
structure Ok {α} (x : PM α) (P : α → Prop) : Prop where
  nf : x ≠ .error .fuel
  post : ∀ a, x = .ok a → P a

theorem Good.of_sat {α} {P : α → Prop} {x : PM α} (h : Sat (fun e => ∀ w, e ≠ .internal w) P x) : Good x :=
  ⟨fun w he => h.err_of he w rfl⟩

theorem Ok.of_sat {α} {P : α → Prop} {x : PM α} (h : Sat (· ≠ .fuel) P x) : Ok x P :=
  ⟨fun he => h.err_of he rfl, fun _ ha => h.ok_of ha⟩

theorem Ok.internal {α} {P : α → Prop} (m) : Ok (Except.error (Fail.internal m) : PM α) P :=
  .of_sat (Sat.err nofun)

theorem Ok.triv {α} {x : PM α} {P : α → Prop} (hx : Ok x P) : Ok x (fun _ => True) := ⟨hx.nf, fun _ _ => trivial⟩

-- (the binders are introduced by hand: a bare `nofun` compiles a match over every one of them, strings and all)
theorem notInternal_deliberate (n : Nat) : Deliberate (fun e => ∀ w, e ≠ .internal w) n :=
  ⟨fun _ _ _ _ => nofun, fun _ _ _ => nofun, fun _ _ => nofun⟩
theorem notFuel_deliberate (n : Nat) : Deliberate (· ≠ .fuel) n := ⟨fun _ _ _ => nofun, fun _ _ => nofun, fun _ => nofun⟩

/-- the four mutually recursive block functions, with every failure but `internal` admitted -/
theorem blocks_good : ∀ f : Nat,
    (∀ (lines : Lines) (start i : Nat) (s : CondSt), Good (condLoop lines start f i s)) ∧
    (∀ (lines : Lines) (start : Nat), Good (extractCond lines f start)) ∧
    (∀ (al : Lines) (bs j : Nat) (c : List J) (ch : Option (List J)), Good (loopBody al bs f j c ch)) ∧
    (∀ (lines : Lines) (start : Nat), Good (extractLoop lines f start)) := by
  intro f
  -- `n` only has to lie above the array and above `start` (no diagnostic is an internal error, wherever it points)
  have hE := notInternal_deliberate
  have fuel : ∀ p, Fuel (fun e => ∀ w, e ≠ .internal w) p := fun _ => .admitted fun _ => nofun
  exact ⟨fun lines start i s => .of_sat ((blocks_sat (hE lines.size) f).condLoop lines start i s (Nat.le_refl _) (fuel _)),
    fun lines start => .of_sat ((blocks_sat (hE _) f).extractCond lines start (Nat.le_max_left ..) (Nat.le_max_right ..) (fuel _)),
    fun al bs j c ch => .of_sat ((blocks_sat (hE al.size) f).loopBody al bs j c ch (Nat.le_refl _) (fuel _)),
    fun lines start => .of_sat ((blocks_sat (hE _) f).extractLoop lines start (Nat.le_max_left ..) (Nat.le_max_right ..) (fuel _))⟩

theorem coreLoop_good (O : PyOracle) (lines : Lines) : ∀ (f i : Nat) (s : PSt), Good (coreLoop O lines f i s) :=
  fun f i s => .of_sat (coreLoop_sat (notInternal_deliberate _) O lines (Nat.le_refl _) f i s (.admitted fun _ => nofun))

theorem parseText_no_internal (O : PyOracle) (src : Line) : ∀ w, parseText O src ≠ .error (.internal w) :=
  fun w h => (parseLines_sat O _ (notInternal_deliberate _)).err_of (parseText_error h) w rfl

/-- the four mutually recursive block functions: fuel for three units per remaining line is enough, and a block uses at
least one line -/
theorem blocks_ok : ∀ f : Nat,
    (∀ (lines : Lines) (start i : Nat) (s : CondSt), start ≤ i → (i = start → s.cur = none) →
        3 * (lines.size - i) + 1 + 2 * min (i - start) 1 ≤ f →
        Ok (condLoop lines start f i s) (fun r => r.2.2 = true → i < r.2.1)) ∧
    (∀ (lines : Lines) (start : Nat), 3 * (lines.size - start) + 2 ≤ f →
        Ok (extractCond lines f start) (fun r => 1 ≤ r.2)) ∧
    (∀ (al : Lines) (bs j : Nat) (c : List J) (ch : Option (List J)), 3 * (al.size - (bs + j)) + 3 ≤ f →
        Ok (loopBody al bs f j c ch) T) ∧
    (∀ (lines : Lines) (start : Nat), 3 * (lines.size - start) + 2 ≤ f →
        Ok (extractLoop lines f start) (fun r => 1 ≤ r.2)) := by
  intro f
  have hE := notFuel_deliberate
  exact ⟨fun lines start i s h1 h2 h3 =>
      .of_sat ((blocks_sat (hE lines.size) f).condLoop lines start i s (Nat.le_refl _) (.bound ⟨h1, h2, h3⟩)),
    fun lines start hf => .of_sat ((blocks_sat (hE _) f).extractCond lines start (Nat.le_max_left ..) (Nat.le_max_right ..) (.bound hf)),
    fun al bs j c ch hf => .of_sat ((blocks_sat (hE al.size) f).loopBody al bs j c ch (Nat.le_refl _) (.bound hf)),
    fun lines start hf => .of_sat ((blocks_sat (hE _) f).extractLoop lines start (Nat.le_max_left ..) (Nat.le_max_right ..) (.bound hf))⟩

/-- the line classifier: three units of fuel per remaining line (and three to spare) are enough -/
theorem coreLoop_ok (O : PyOracle) (lines : Lines) : ∀ (f i : Nat) (s : PSt), 3 * (lines.size - i) + 3 ≤ f →
    Ok (coreLoop O lines f i s) T :=
  fun f i s hf => .of_sat ((coreLoop_sat (notFuel_deliberate _) O lines (Nat.le_refl _) f i s (.bound hf)).post fun _ _ => trivial)

theorem parseText_no_fuel (O : PyOracle) (src : Line) : parseText O src ≠ .error .fuel :=
  fun h => (parseLines_sat O _ (notFuel_deliberate _)).err_of (parseText_error h) rfl

/-- **C11 for the parser model**: every text yields a story or a deliberate diagnostic (SyntaxError / ValueError) — or,
in the model's own vocabulary, a question about Python syntax that the recorded `ast.parse` table does not answer -/
theorem parseText_total (O : PyOracle) (src : Line) :
    (∃ story, parseText O src = .ok story) ∨ (∃ cls line what, parseText O src = .error (.diag cls line what)) ∨
    (∃ q, parseText O src = .error (.oracleMiss q)) := by
  cases h : parseText O src with
  | ok j => exact Or.inl ⟨j, rfl⟩
  | error e =>
    cases e with
    | diag c l w => exact Or.inr (Or.inl ⟨c, l, w, rfl⟩)
    | internal w => exact absurd h (parseText_no_internal O src w)
    | fuel => exact absurd h (parseText_no_fuel O src)
    | oracleMiss q => exact Or.inr (Or.inr ⟨q, rfl⟩)

end Bardic.Parser
