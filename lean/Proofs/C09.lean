import Proofs.Lemmas.Lift
import Proofs.C04
/-!
# C09 — `turn_end` hooks run once per successful choice, in order, until unhooked

Ghost log: `Ev.hookRun p` is recorded exactly when `trigger_event` runs hooked passage `p`.
-/
namespace Bardic
variable {S : Sem}

def hookRuns (log : List Ev) : List String :=
  log.filterMap fun e => match e with | .hookRun p => some p | _ => none

@[simp] theorem hookRuns_cons_enter (p : String) (log : List Ev) :
    hookRuns (Ev.enter p :: log) = hookRuns log := rfl
@[simp] theorem hookRuns_cons_exec (c : String) (log : List Ev) :
    hookRuns (Ev.exec c :: log) = hookRuns log := rfl
@[simp] theorem hookRuns_cons_reg (a : Bool) (e t : String) (log : List Ev) :
    hookRuns (Ev.hookReg a e t :: log) = hookRuns log := rfl
@[simp] theorem hookRuns_cons_run (p : String) (log : List Ev) :
    hookRuns (Ev.hookRun p :: log) = p :: hookRuns log := rfl

theorem renderInv_noHookRun : RenderInv S (fun rs' rs => hookRuns rs'.log = hookRuns rs.log) where
  refl := fun _ => rfl
  trans := fun h1 h2 => h1.trans h2
  stmt := by intro cfg code rs; fun_cases execStmt S cfg code rs <;> rfl
  block := by intro cfg code rs; fun_cases execBlock S cfg code rs <;> rfl
  hook := by intro cfg add ev tgt rs; fun_cases execHook S cfg add ev tgt rs <;> rfl
  vars := fun _ _ => rfl

/-- **hooks never run on direct navigation**: `goto` (hence also `load_state`, which navigates with
`goto`) records no hook run -/
theorem goto_no_hookRun (c : ECfg S) (fuel : Nat) (spec : String) (l : Live S.V) :
    hookRuns (goto c fuel spec l).1.log = hookRuns l.log :=
  goto_inv (navInv_of_renderInv renderInv_noHookRun (fun _ _ => rfl) c) fuel spec l

theorem renderPassage_no_hookRun (c : ECfg S) (pid : String) (l : Live S.V) :
    hookRuns (renderPassage c pid l).1.log = hookRuns l.log :=
  renderPassage_inv renderInv_noHookRun c pid l

theorem executePassage_no_hookRun (c : ECfg S) (pid : String) (l : Live S.V) :
    hookRuns (executePassage c pid l).1.log = hookRuns l.log :=
  executePassage_inv renderInv_noHookRun (fun _ _ => rfl) c pid l

/-- the hooked passages that exist, in the order given -/
def existing (c : ECfg S) (ps : List String) : List String :=
  ps.filter fun p => (c.story.passage? p).isSome

/-- **once each, first registered first**: a completed `trigger_event` over the list `ps` runs
exactly the existing passages of `ps`, each once, in that order (the log is newest first) —
whatever the hooked passages do to the hook table meanwhile. -/
theorem runHooks_runs_each_once (c : ECfg S) : ∀ (ps acc : List String) (l : Live S.V) (s : String),
    (runHooks c ps acc l).2 = .ok s →
    hookRuns (runHooks c ps acc l).1.log = (existing c ps).reverse ++ hookRuns l.log := by
  intro ps acc l
  fun_induction runHooks c ps acc l with
  | case1 => intro s _; rfl
  | case2 p ps _ _ hp ih =>
    have : existing c (p :: ps) = existing c ps := by simp [existing, hp]
    rw [this]; exact ih
  | case3 | case4 => intro s hs; cases hs
  | case5 p ps _ l _ hp l1 _ he l2 _ ho ih =>
    intro s hs
    have h1 := executePassage_no_hookRun c p { l with log := Ev.hookRun p :: l.log }
    have h2 := renderPassage_no_hookRun c p l1
    rw [he] at h1
    rw [ho] at h2
    have : existing c (p :: ps) = p :: existing c ps := by simp [existing, hp]
    rw [ih s hs, h2, h1, this]
    simp

/-- `trigger_event` iterates a *copy* of the registration list taken when triggering starts -/
theorem triggerEvent_runs_registered (c : ECfg S) (ev : String) (l : Live S.V) (s : String)
    (h : (triggerEvent c ev l).2 = .ok s) :
    hookRuns (triggerEvent c ev l).1.log =
      (existing c ((l.hooks.lookup ev).getD [])).reverse ++ hookRuns l.log := by
  revert h
  fun_cases triggerEvent c ev l
  case case1 hn => intro _; rw [hn]; rfl
  case case2 active hn => rw [hn]; exact runHooks_runs_each_once c active [] l s

theorem register_of_mem (h : Hooks) (ev p : String) (l : List String) (hl : h.lookup ev = some l)
    (hc : l.contains p = true) : Hooks.register h ev p = h := by
  unfold Hooks.register
  rw [hl]
  exact if_pos hc

theorem register_idempotent (h : Hooks) (ev p : String) :
    Hooks.register (Hooks.register h ev p) ev p = Hooks.register h ev p := by
  have key : ∃ l, (Hooks.register h ev p).lookup ev = some l ∧ l.contains p = true := by
    fun_cases Hooks.register h ev p
    case case1 hl => exact ⟨[p], by rw [List.lookup_append, hl, Option.none_or, List.lookup_cons, beq_self_eq_true'], by simp⟩
    case case2 l hl hc => exact ⟨l, hl, hc⟩
    case case3 l hl _ => exact ⟨l ++ [p], Env.get?_set_self h ev _, by simp⟩
  obtain ⟨l, hl, hc⟩ := key
  exact register_of_mem _ ev p l hl hc

/-- a new registration goes to the end: first registered, first run -/
theorem register_order (h : Hooks) (ev p : String) (l : List String) (hl : h.lookup ev = some l)
    (hn : l.contains p = false) :
    (Hooks.register h ev p).lookup ev = some (l ++ [p]) := by
  unfold Hooks.register
  simp only [hl, hn, Bool.false_eq_true, if_false]
  exact Env.get?_set_self h ev _

/-- unhooking removes that passage only and keeps the order of the others -/
theorem unregister_keeps_others (h : Hooks) (ev p : String) (l : List String) (hl : h.lookup ev = some l) :
    (Hooks.unregister h ev p).lookup ev = some (l.erase p) := by
  simp only [Hooks.unregister, hl]
  split
  · exact Env.get?_set_self h ev _
  · rename_i hc
    rw [List.erase_of_not_mem (by simpa using hc)]
    exact hl

/-- undo / redo record no hook run (they never call `trigger_event`) -/
theorem undo_redo_no_hookRun (c : ECfg S) (e : Eng S.V) (hw : e.WF) :
    hookRuns (e.doUndo c).1.live.log = hookRuns e.live.log ∧
    hookRuns (e.doRedo c).1.live.log = hookRuns e.live.log := by
  constructor
  · cases hu : e.undo with
    | nil => rw [undo_empty_noop c e hu]
    | cons prev rest =>
      have hp : prev.out.isSome := hw.undo prev (hu ▸ List.mem_cons_self)
      rw [doUndo_eq c e prev rest hu hp]
      exact congrArg hookRuns (restore_ok c prev e.live hp).2.2
  · cases hu : e.redo with
    | nil => rw [redo_empty_noop c e hu]
    | cons nxt rest =>
      have hp : nxt.out.isSome := hw.redo nxt (hu ▸ List.mem_cons_self)
      rw [doRedo_eq c e nxt rest hu hp]
      exact congrArg hookRuns (restore_ok c nxt e.live hp).2.2

end Bardic
