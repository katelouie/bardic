import Proofs.Lemmas.Seq
import Bardic.Ref
/-!
# C01 — rendering the compiled tokens of a source body is the documented meaning of its items

… and what compiling a passage keeps and drops at its top level (commands, content, whitespace cleanup).
-/
namespace Bardic
open Bardic.Src Bardic.Ref
variable {S : Sem}

/-- on a colon-safe expression the engine's first-colon split reads the author's code and spec -/
theorem renderExpr_ref (ctx : Env S.V) (c : String) (sp : Option String) (h : exprColonSafe c sp = true) :
    renderExpr S ctx (fullCode c sp) = refExpr S ctx c sp := by
  cases sp with
  | none =>
    replace h := eq_of_beq h
    simp only [renderExpr, fullCode, h, refExpr]
    cases S.eval ctx c <;> rfl
  | some s =>
    replace h := eq_of_beq h
    simp only [renderExpr, h, refExpr]
    cases S.eval ctx c with
    | error e => rfl
    | ok v => cases S.fmt v s <;> rfl

theorem cInl_noJoin (i : Inl) : (cInl i).isJoinMarker = false := by cases i <;> rfl

mutual
/-- inline parts render to their text, touch nothing and never fail -/
theorem renderTok_inl (cfg : RCfg S) : ∀ (i : Inl) (rs : RS S.V), inlColonSafe i = true →
    renderTok S cfg (cInl i) rs = (rs, .ok { text := inlText S (rctx S cfg rs) i })
  | .text s, rs, _ => rfl
  | .expr c sp, rs, h => by rw [cInl, renderTok, renderExpr_ref _ c sp h, inlText]
  | .cond c t f, rs, h => by
      have h := Bool.and_eq_true_iff.mp h
      rw [cInl, renderTok_inlineCond, inlText, renderToks_inls cfg t rs h.1, renderToks_inls cfg f rs h.2]
      cases S.eval (rctx S cfg rs) c with
      | error e => rfl
      | ok v => simp only; cases S.truthy v <;> rfl
theorem renderToks_inls (cfg : RCfg S) : ∀ (l : List Inl) (rs : RS S.V), inlsColonSafe l = true →
    renderToks S cfg (cInls l) rs = (rs, .ok { text := inlsText S (rctx S cfg rs) l })
  | [], rs, _ => rfl
  | i :: r, rs, h => by
      have h := Bool.and_eq_true_iff.mp h
      rw [cInls, renderToks_cons_of_noJoin cfg (cInl_noJoin i), renderTok_inl cfg i rs h.1,
        seqR_ok_nojump _ _ _ rfl, renderToks_inls cfg r rs h.2]
      rfl
end

theorem cInls_noJoin : ∀ (l : List Inl), ∀ t ∈ cInls l, t.isJoinMarker = false
  | [] => List.forall_mem_nil _
  | i :: r => List.forall_mem_cons.mpr ⟨cInl_noJoin i, cInls_noJoin r⟩

/-- tags are invisible -/
theorem renderToks_attachTags (cfg : RCfg S) (tags : List String) : ∀ (ts : List Tok) (rs : RS S.V),
    renderToks S cfg (attachTags tags ts) rs = renderToks S cfg ts rs := by
  intro ts
  fun_induction attachTags tags ts with
  | case1 | case2 | case3 => exact fun _ => rfl
  | case4 t r _ _ ih => exact fun rs => by rw [renderToks_cons, renderToks_cons, funext ih]

theorem attachTags_noJoin (tags : List String) : ∀ (ts : List Tok), (∀ t ∈ ts, t.isJoinMarker = false) →
    ∀ t ∈ attachTags tags ts, t.isJoinMarker = false := by
  intro ts h
  fun_induction attachTags tags ts with
  | case1 => exact List.forall_mem_nil _
  | case2 => exact fun t ht => List.mem_singleton.mp ht ▸ rfl
  | case3 => exact h
  | case4 t r _ _ ih =>
    obtain ⟨ht, hr⟩ := List.forall_mem_cons.mp h
    exact List.forall_mem_cons.mpr ⟨ht, ih hr⟩

/-- **a content line**: the text of its parts, then one newline unless it is glued; tags and comments show nothing -/
theorem render_line (cfg : RCfg S) (parts : List Inl) (glue : Bool) (tags : List String) (rs : RS S.V)
    (h : inlsColonSafe parts = true) :
    renderToks S cfg (cLine parts glue tags) rs =
      (rs, .ok { text := inlsText S (rctx S cfg rs) parts ++ (if glue then "" else "\n") }) := by
  unfold cLine
  rw [renderToks_append cfg _ _ rs (attachTags_noJoin tags _ (cInls_noJoin parts)), renderToks_attachTags,
    renderToks_inls cfg parts rs h]
  cases glue <;> rfl

theorem renderChoiceTexts_ref (cfg : RCfg S) : ∀ (body : List Item) (rs : RS S.V), itemsColonSafe body = true →
    renderChoiceTexts S cfg (cChoices body) rs = refChoiceTexts S cfg body rs := by
  intro body rs h
  fun_induction cChoices body with
  | case1 => rfl
  | case2 c r ih =>
    have h := Bool.and_eq_true_iff.mp h
    obtain ⟨text⟩ := c
    rw [renderChoiceTexts_cons, cChoice, Choice.text,
      renderToks_inls cfg text rs (Bool.and_eq_true_iff.mp h.1).1, RRes.ok_bind, refChoiceTexts, ← ih h.2]
    rcases renderChoiceTexts S cfg (cChoices r) rs with ⟨rs2, e | ds⟩ <;> rfl
  | case3 i r hi ih =>
    rw [ih (Bool.and_eq_true_iff.mp h).2, refChoiceTexts]
    exact fun _ _ _ _ _ _ _ => hi _

theorem cItem_noJoin (i : Item) : ∀ t ∈ cItem i, t.isJoinMarker = false := by
  cases i with
  | line parts glue tags cmt =>
    refine List.forall_mem_append.mpr ⟨attachTags_noJoin tags _ (cInls_noJoin parts), ?_⟩
    cases glue
    · exact List.forall_mem_singleton.mpr rfl
    · exact List.forall_mem_nil _
  | comment | choice | join => exact List.forall_mem_nil _
  | _ => exact List.forall_mem_singleton.mpr rfl

mutual
/-- **one item** of a body: rendering its compiled tokens is its documented meaning -/
theorem render_cItem (cfg : RCfg S) : ∀ (i : Item) (rs : RS S.V), itemColonSafe i = true →
    renderToks S cfg (cItem i) rs = refItem S cfg i rs := by
  intro i rs h
  cases i with
  | line parts glue tags cmt => exact render_line cfg parts glue tags rs h
  | comment => rfl
  | choice c => rfl
  | join => rfl
  | ifB bs => exact (renderToks_single cfg _ rs rfl).trans (render_cBranches cfg bs rs h)
  | forB lv coll body =>
      refine (renderToks_single cfg _ rs rfl).trans ?_
      rw [renderTok_loop, funext fun r => render_cItems cfg body r h, funext fun r => renderChoiceTexts_ref cfg body r h]
      rfl
  | _ => exact renderToks_single cfg _ rs rfl
/-- **a body**: its items in order, a jump ending the rendering -/
theorem render_cItems (cfg : RCfg S) : ∀ (l : List Item) (rs : RS S.V), itemsColonSafe l = true →
    renderToks S cfg (cItems l) rs = refItems S cfg l rs
  | [], rs, _ => rfl
  | i :: r, rs, h => by
      have h := Bool.and_eq_true_iff.mp h
      rw [cItems, renderToks_append cfg _ _ rs (cItem_noJoin i), render_cItem cfg i rs h.1,
        funext fun rs1 => render_cItems cfg r rs1 h.2]
      rfl
/-- **`@if`**: the first branch whose condition is truthy; a failing condition is skipped -/
theorem render_cBranches (cfg : RCfg S) : ∀ (bs : List SBranch) (rs : RS S.V), branchesColonSafe bs = true →
    renderBranches S cfg (cBranches bs) rs = refBranches S cfg bs rs
  | [], rs, _ => rfl
  | .mk c body :: r, rs, h => by
      have h := Bool.and_eq_true_iff.mp h
      rw [cBranches, renderBranches, refBranches, render_cItems cfg body rs h.1, render_cBranches cfg r rs h.2]
      rfl
end

/-- content tokens an item contributes at the top level -/
def topTok : Item → List Tok
  | .line p g t _ => cLine p g t
  | .blank => [nl]
  | .ifB bs => [.cond (cBranches bs)]
  | .forB v c body => [.loop v c (cItems body) (cChoices body)]
  | .render n a => [.render n a none]
  | .jump t a => [.jump t a]
  | .join => [.joinMarker]
  | _ => []

theorem foldl_cTopItem_content (items : List Item) (a : Acc) :
    (items.foldl cTopItem a).content = a.content ++ items.flatMap topTok := by
  induction items generalizing a with
  | nil => simp
  | cons i r ih =>
    rw [List.foldl_cons, ih, List.flatMap_cons]
    cases i with
    | comment | stmt | py | hook | input | choice => rfl
    | _ => exact List.append_assoc ..

/-- **commands**: the top-level `~` statements, Python blocks and hooks of a passage, in source order, are exactly
its `execute` list (run on entry, before the text is rendered) -/
theorem foldl_cTopItem_execute (items : List Item) (a : Acc) :
    (items.foldl cTopItem a).execute = a.execute ++ items.filterMap cmdTok := by
  induction items generalizing a with
  | nil => simp
  | cons i r ih =>
    rw [List.foldl_cons, ih, List.filterMap_cons]
    cases i with
    | stmt | py | hook => exact List.append_assoc ..
    | _ => rfl

theorem compilePassage_execute (p : SPassage) :
    (compilePassage p).execute = (normItems p.items).filterMap cmdTok := by
  simp [compilePassage, foldl_cTopItem_execute]

theorem renderToks_skipHead (cfg : RCfg S) (t : Tok) (ts : List Tok) (rs : RS S.V) (hj : t.isJoinMarker = false)
    (h : renderTok S cfg t rs = (rs, .ok {})) : renderToks S cfg (t :: ts) rs = renderToks S cfg ts rs := by
  rw [renderToks_cons_of_noJoin cfg hj, h, seqR_empty]

/-- **the text of a passage**: rendering the (uncleaned) content tokens is the meaning of the visible top-level items
in order; commands, `@input` lines, choices and comments contribute nothing here; in the main engine a `@join`
marker ends the section -/
theorem render_top (cfg : RCfg S) : ∀ (items : List Item) (rs : RS S.V), itemsColonSafe items = true →
    renderToks S cfg (items.flatMap topTok) rs = refTop S cfg items rs := by
  intro items rs h
  induction items generalizing rs with
  | nil => rfl
  | cons i r ih =>
    have h := Bool.and_eq_true_iff.mp h
    have vis : topTok i = cItem i → topVisible i = true → i ≠ .join →
        renderToks S cfg ((i :: r).flatMap topTok) rs = refTop S cfg (i :: r) rs := fun hi hv hj => by
      rw [List.flatMap_cons, hi, renderToks_append cfg _ _ rs (cItem_noJoin i), render_cItem cfg i rs h.1,
        funext fun rs1 => ih rs1 h.2, refTop.eq_3 S cfg rs i r hj, if_pos hv]
      rfl
    cases i with
    | line | blank | ifB | forB | render => exact vis rfl rfl nofun
    | comment | stmt | py | input | hook | choice => exact ih rs h.2
    | jump t a => rfl
    | join =>
      rw [refTop, ← ih rs h.2, ← seqR_empty rs (renderToks S cfg (r.flatMap topTok))]
      rfl

/-! ## whitespace cleanup: only newline tokens are ever dropped, and none when the content has no conditional -/

theorem cleanupGo_spec (ts acc : List Tok) :
    ∃ kept, cleanupGo ts acc = acc.reverse ++ kept ∧ kept.Sublist ts ∧
      (kept.filter (fun t => !isNl t) = ts.filter (fun t => !isNl t)) := by
  fun_induction cleanupGo ts acc with
  | case1 acc => exact ⟨[], by simp, .refl _, rfl⟩
  | case2 t rest acc h ih | case3 t rest acc _ h ih =>
    obtain ⟨k, hk, hs, hf⟩ := ih
    simp only [Bool.and_eq_true] at h
    exact ⟨k, hk, hs.cons _, by simp [h.1.1, hf]⟩
  | case4 t rest acc _ _ ih =>
    obtain ⟨k, hk, hs, hf⟩ := ih
    exact ⟨t :: k, by simp [hk], hs.cons_cons _, by simp only [List.filter_cons, hf]⟩

/-- `_cleanup_whitespace` keeps every token that is not a newline, in order, and drops nothing else than newlines -/
theorem cleanup_spec (ts : List Tok) :
    (cleanup ts).Sublist ts ∧ (cleanup ts).filter (fun t => !isNl t) = ts.filter (fun t => !isNl t) := by
  obtain ⟨k, hk, hs, hf⟩ := cleanupGo_spec ts []
  simp only [cleanup, hk, List.reverse_nil, List.nil_append]
  exact ⟨hs, hf⟩

theorem headIs_false {p : Tok → Bool} : ∀ {l : List Tok}, (∀ t ∈ l, p t = false) → headIs p l = false
  | [], _ => rfl
  | t :: _, h => h t List.mem_cons_self

/-- with no conditional block in it, a passage's content is left as written -/
theorem cleanupGo_noCond (ts acc : List Tok) (h : ∀ t ∈ ts, isCondTok t = false)
    (ha : ∀ t ∈ acc, isCondTok t = false) : cleanupGo ts acc = acc.reverse ++ ts := by
  fun_induction cleanupGo ts acc with
  | case1 acc => exact (List.append_nil _).symm
  | case2 t rest acc hc | case3 t rest acc _ hc =>
    -- neither of the two droppings applies: no conditional stands next to `t`
    simp only [headIs_false (List.forall_mem_cons.mp h).2, headIs_false ha, Bool.and_false, Bool.false_and, Bool.false_eq_true] at hc
  | case4 t rest acc _ _ ih =>
    rw [List.append_cons, ← List.reverse_cons]
    exact ih (List.forall_mem_cons.mp h).2 (List.forall_mem_cons.mpr ⟨h t List.mem_cons_self, ha⟩)

theorem cleanup_noCond (ts : List Tok) (h : ∀ t ∈ ts, isCondTok t = false) : cleanup ts = ts :=
  cleanupGo_noCond ts [] h (List.forall_mem_nil _)

/-- `_trim_trailing_newlines` only cuts tokens off the end -/
theorem trimTrailing_prefix (ts : List Tok) : ∃ k, trimTrailing ts = ts.take k := by
  unfold trimTrailing
  dsimp only
  split
  · exact ⟨_, rfl⟩
  · exact ⟨ts.length, by simp⟩

/-! ## more about the compile model: merging adjacent text parts is invisible; what a compiled story looks like (C01 / C12) -/

theorem inlsText_consText (ctx : Env S.V) (s : String) (r : List Inl) :
    inlsText S ctx (if s == "" then r else .text s :: r) = s ++ inlsText S ctx r := by
  split
  · rename_i h; rw [eq_of_beq h, String.empty_append]
  · rfl

/-- adjacent text parts read as one text: merging them (what the tokenizer does) does not change what the line shows -/
theorem mergeTexts_text (ctx : Env S.V) : ∀ (ps : List Inl), inlsText S ctx (mergeTexts ps) = inlsText S ctx ps
  | [] => rfl
  | .text a :: rest => by
      have ih := mergeTexts_text ctx rest
      unfold mergeTexts
      split
      · rename_i b r hm
        rw [inlsText_consText, String.append_assoc]
        exact congrArg (a ++ ·) ((congrArg (inlsText S ctx) hm).symm.trans ih)
      · rw [inlsText_consText]
        exact congrArg (a ++ ·) ih
  | .expr c sp :: rest => congrArg (inlText S ctx (.expr c sp) ++ ·) (mergeTexts_text ctx rest)
  | .cond c t f :: rest => congrArg (inlText S ctx (.cond c t f) ++ ·) (mergeTexts_text ctx rest)

/-- the content of a compiled passage: the visible top-level items in order, whitespace-cleaned, trailing newlines trimmed -/
theorem compilePassage_content (p : SPassage) :
    (compilePassage p).content = trimTrailing (cleanup ((normItems p.items).flatMap topTok)) := by
  simp [compilePassage, foldl_cTopItem_content]

/-- C12: every passage of a compiled story is stored under its own id -/
theorem compileStory_keys (ps : List SPassage) (start : Option String) :
    ∀ kp ∈ (compileStory ps start).passages, kp.2.id = kp.1 := by
  intro kp h
  obtain ⟨p, _, rfl⟩ := List.mem_map.mp h
  rfl

/-- C12: without `@start` the initial passage (`Start` when there is one, else the first passage) exists -/
theorem compileStory_initial (ps : List SPassage) (h : ps ≠ []) :
    ∃ p ∈ (compileStory ps none).passages, p.1 = (compileStory ps none).initial := by
  cases ps with
  | nil => exact absurd rfl h
  | cons p0 rest =>
    simp only [compileStory]
    split
    · rename_i hs
      simp only [List.any_eq_true] at hs
      obtain ⟨x, hx, hx2⟩ := hs
      exact ⟨x, hx, by simpa using hx2⟩
    · exact ⟨_, List.mem_cons_self, by simp⟩

end Bardic
