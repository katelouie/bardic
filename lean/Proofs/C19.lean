import Proofs.Lemmas.Seq
/-!
# C19 — the browser copy of the engine renders like the main engine on the common feature subset

`Tok.common` / `toksCommon`: no hook tokens, no join markers (the features the browser bundle lacks), and inline
conditional branches hold only text / expressions (what the compiler produces).
-/
namespace Bardic
variable {S : Sem}

mutual
def Tok.common : Tok → Bool
  | .hook _ _ _ => false
  | .joinMarker => false
  | .inlineCond _ t f => toksPlain t && toksPlain f
  | .cond bs => branchesCommon bs
  | .loop _ _ body chs => toksCommon body && choicesCommon chs
  | _ => true
def toksCommon : List Tok → Bool
  | [] => true
  | t :: ts => t.common && toksCommon ts
def branchesCommon : List Branch → Bool
  | [] => true
  | .mk _ body chs :: bs => toksCommon body && choicesCommon chs && branchesCommon bs
def choicesCommon : List Choice → Bool
  | [] => true
  | .mk text _ _ _ _ _ _ _ :: cs => toksPlain text && choicesCommon cs
/-- only text, display expressions and (nested) inline conditionals -/
def Tok.plain : Tok → Bool
  | .text _ _ => true
  | .expr _ => true
  | .inlineCond _ t f => toksPlain t && toksPlain f
  | _ => false
def toksPlain : List Tok → Bool
  | [] => true
  | t :: ts => t.plain && toksPlain ts
end

def cfgOf (v : Variant) (cx : Env S.V) (scope : Option (Env S.V)) : RCfg S := ⟨v, cx, scope⟩

/-- a class of tokens that excludes the join marker (`Tok.plain`, `Tok.common`) holds no join marker -/
theorem Tok.noJoin_of {p : Tok → Bool} (hp : p .joinMarker = false) {t : Tok} (h : p t = true) :
    t.isJoinMarker = false := by
  fun_cases Tok.isJoinMarker t
  · cases hp.symm.trans h
  · rfl

mutual
/-- plain token lists render identically in both engines (they never fail, never touch state) -/
theorem renderTok_plain_eq (cx : Env S.V) (scope : Option (Env S.V)) : ∀ (t : Tok) (rs : RS S.V),
    t.plain = true → renderTok S (cfgOf .browser cx scope) t rs = renderTok S (cfgOf .main cx scope) t rs := by
  intro t rs h
  cases t with
  | text => rfl
  | expr => rfl
  | inlineCond c t f =>
      have h := Bool.and_eq_true_iff.mp h
      rw [renderTok_inlineCond, renderTok_inlineCond, renderToks_plain_eq _ _ t rs h.1, renderToks_plain_eq _ _ f rs h.2]
      rfl
  | _ => exact Bool.noConfusion h
theorem renderToks_plain_eq (cx : Env S.V) (scope : Option (Env S.V)) : ∀ (ts : List Tok) (rs : RS S.V),
    toksPlain ts = true → renderToks S (cfgOf .browser cx scope) ts rs = renderToks S (cfgOf .main cx scope) ts rs
  | [], rs, _ => rfl
  | t :: ts, rs, h => by
      have h := Bool.and_eq_true_iff.mp h
      simp only [renderToks_cons_of_noJoin _ (Tok.noJoin_of (p := Tok.plain) rfl h.1),
        renderTok_plain_eq cx scope t rs h.1, funext fun rs1 => renderToks_plain_eq cx scope ts rs1 h.2]
end

/-- result of a main-engine render that succeeded is also what the browser copy computes -/
def MainOkImpliesSame {α} (b m : RRes S α) : Prop := ∀ rs' r, m = (rs', .ok r) → b = (rs', .ok r)

theorem MainOkImpliesSame.of_eq {α} {b m : RRes S α} (h : b = m) : MainOkImpliesSame b m :=
  fun _ _ hm => h ▸ hm

theorem MainOkImpliesSame.ite {α} {c : Prop} [Decidable c] {tb eb tm em : RRes S α}
    (ht : MainOkImpliesSame tb tm) (he : MainOkImpliesSame eb em) :
    MainOkImpliesSame (if c then tb else eb) (if c then tm else em) := by
  split <;> assumption

theorem MainOkImpliesSame.bind {α β} {xb xm : RRes S α} {kb km : RS S.V → α → RRes S β}
    (hx : MainOkImpliesSame xb xm) (hk : ∀ rs a, MainOkImpliesSame (kb rs a) (km rs a)) :
    MainOkImpliesSame (xb.bind kb) (xm.bind km) := by
  rcases xm with ⟨rs, e | a⟩
  · exact fun _ _ => nofun
  · rw [hx rs a rfl]; exact hk rs a

theorem MainOkImpliesSame.seqR {xb xm : RRes S (ROut S.V)} {kb km : RS S.V → RRes S (ROut S.V)}
    (hx : MainOkImpliesSame xb xm) (hk : ∀ rs, MainOkImpliesSame (kb rs) (km rs)) :
    MainOkImpliesSame (seqR xb kb) (seqR xm km) := by
  simp only [seqR_eq_bind]
  exact hx.bind fun rs1 r1 => .ite (.of_eq rfl) ((hk rs1).bind fun _ _ => .of_eq rfl)

theorem MainOkImpliesSame.withVars {α} {xb xm : RRes S α} (f : Env S.V → Env S.V)
    (hx : MainOkImpliesSame xb xm) : MainOkImpliesSame (withVars f xb) (withVars f xm) := by
  rcases xm with ⟨rs, e | a⟩
  · exact fun _ _ => nofun
  · rw [hx rs a rfl]; exact .of_eq rfl

theorem loopItems_common (lv : String) (bodyB bodyM : RS S.V → RRes S (ROut S.V))
    (chsB chsM : RS S.V → RRes S (List (Dir S.V)))
    (hb : ∀ rs, MainOkImpliesSame (bodyB rs) (bodyM rs)) (hc : ∀ rs, MainOkImpliesSame (chsB rs) (chsM rs)) :
    ∀ (items : List S.V) (rs : RS S.V),
      MainOkImpliesSame (loopItems S lv bodyB chsB items rs) (loopItems S lv bodyM chsM items rs) := by
  intro items
  induction items with
  | nil => exact fun rs => .of_eq rfl
  | cons item items ih =>
    intro rs
    simp only [loopItems_cons]
    exact .seqR (.withVars _ ((hb _).bind fun rs2 _ => (hc rs2).bind fun _ _ => .of_eq rfl)) ih

theorem loopOver_common (cx : Env S.V) (scope : Option (Env S.V)) (lv : String)
    (bodyB bodyM : RS S.V → RRes S (ROut S.V)) (chsB chsM : RS S.V → RRes S (List (Dir S.V)))
    (hb : ∀ rs, MainOkImpliesSame (bodyB rs) (bodyM rs)) (hc : ∀ rs, MainOkImpliesSame (chsB rs) (chsM rs))
    (coll : Except PyErr (List S.V)) (rs : RS S.V) :
    MainOkImpliesSame (loopOver (cfgOf .browser cx scope) lv bodyB chsB coll rs)
      (loopOver (cfgOf .main cx scope) lv bodyM chsM coll rs) := by
  rcases coll with e | items
  · exact fun _ _ => nofun
  · have := loopItems_common lv bodyB bodyM chsB chsM hb hc items rs
    revert this
    dsimp only [loopOver]
    rcases loopItems S lv bodyM chsM items rs with ⟨rs', e | r⟩
    · exact fun _ _ _ => nofun
    · exact fun this => .of_eq (by rw [this rs' r rfl])

theorem renderChoiceTexts_common (cx : Env S.V) (scope : Option (Env S.V)) : ∀ (cs : List Choice) (rs : RS S.V),
    choicesCommon cs = true →
    MainOkImpliesSame (renderChoiceTexts S (cfgOf .browser cx scope) cs rs) (renderChoiceTexts S (cfgOf .main cx scope) cs rs)
  | [], rs, _ => .of_eq rfl
  | .mk text tgt args cnd sticky sec tags block :: cs, rs, hc => by
      have hc := Bool.and_eq_true_iff.mp hc
      simp only [renderChoiceTexts_cons]
      exact (MainOkImpliesSame.of_eq (renderToks_plain_eq cx scope text rs hc.1)).bind fun rs1 _ =>
        (renderChoiceTexts_common cx scope cs rs1 hc.2).bind fun _ _ => .of_eq rfl

mutual
theorem renderTok_common (cx : Env S.V) (scope : Option (Env S.V)) : ∀ (t : Tok) (rs : RS S.V),
    t.common = true →
    MainOkImpliesSame (renderTok S (cfgOf .browser cx scope) t rs) (renderTok S (cfgOf .main cx scope) t rs) := by
  intro t rs hc
  cases t with
  | inlineCond c t f => exact .of_eq (renderTok_plain_eq cx scope (.inlineCond c t f) rs hc)
  | hook add ev tgt => cases hc
  | joinMarker => cases hc
  | cond bs => exact renderBranches_common cx scope bs rs hc
  | loop lv coll body choices =>
      have hc := Bool.and_eq_true_iff.mp hc
      simp only [renderTok_loop]
      exact .ite (.of_eq rfl) (loopOver_common cx scope lv _ _ _ _
        (fun rs0 => renderToks_common cx scope body rs0 hc.1) (fun rs0 => renderChoiceTexts_common cx scope choices rs0 hc.2) _ rs)
  | _ => exact .of_eq (by rfl)  -- (the term `rfl` has the two renders compared twice)

theorem renderToks_common (cx : Env S.V) (scope : Option (Env S.V)) : ∀ (ts : List Tok) (rs : RS S.V),
    toksCommon ts = true →
    MainOkImpliesSame (renderToks S (cfgOf .browser cx scope) ts rs) (renderToks S (cfgOf .main cx scope) ts rs)
  | [], rs, _ => .of_eq rfl
  | t :: ts, rs, hc => by
      have hc := Bool.and_eq_true_iff.mp hc
      simp only [renderToks_cons_of_noJoin _ (Tok.noJoin_of (p := Tok.common) rfl hc.1)]
      exact .seqR (renderTok_common cx scope t rs hc.1) fun rs1 => renderToks_common cx scope ts rs1 hc.2

theorem renderBranches_common (cx : Env S.V) (scope : Option (Env S.V)) : ∀ (bs : List Branch) (rs : RS S.V),
    branchesCommon bs = true →
    MainOkImpliesSame (renderBranches S (cfgOf .browser cx scope) bs rs) (renderBranches S (cfgOf .main cx scope) bs rs)
  | [], rs, _ => .of_eq rfl
  | .mk c body chs :: bs, rs, hc => by
      have hc := Bool.and_eq_true_iff.mp hc
      simp only [renderBranches_cons]
      exact .ite ((renderToks_common cx scope body rs (Bool.and_eq_true_iff.mp hc.1).1).bind fun _ _ => .of_eq rfl)
        (renderBranches_common cx scope bs rs hc.2)
end

end Bardic
