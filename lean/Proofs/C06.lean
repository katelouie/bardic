import Bardic.Codec
/-!
# C06 — story values survive save → JSON → load at any nesting depth
-/
namespace Bardic.Codec

theorem lookup_encKVs_none (k : String) (d : List (String × PyVal)) (h : d.any (·.1 == k) = false) :
    (encKVs d).lookup k = none := by
  induction d with
  | nil => rfl
  | cons kv rest ih =>
    obtain ⟨(h1 : (kv.1 == k) = false), h2⟩ := Bool.or_eq_false_iff.mp h
    rw [encKVs, List.lookup_cons, Bool.beq_comm, h1]
    exact ih h2

theorem encPublic_eq_encKVs (a : List (String × PyVal)) (h : a.all (fun kv => isPublic kv.1) = true) :
    encPublic a = encKVs a := by
  induction a with
  | nil => rfl
  | cons kv rest ih =>
    obtain ⟨h1, h2⟩ := Bool.and_eq_true_iff.mp h
    exact (if_pos h1).trans (congrArg _ (ih h2))

theorem dec_typed (ctx : Registry) (d : List (String × JVal)) (ty : String)
    (ht : d.lookup "_type" = some (.str ty)) (hne : ty ≠ "string_repr") (hnd : ty ≠ "dict") :
    dec ctx (.obj d) = (match ctx.lookup ty with
      | none => PyVal.dict ((decDataOf ctx d).getD [])
      | some (m, .auto) => PyVal.obj ty m .auto ((decDataOf ctx d).getD [])
      | some (m, .custom) => PyVal.obj ty m .custom (match decDataC ctx d with | some (.dict kvs) => kvs | _ => [])) := by
  unfold dec
  rewrite [ht]
  split
  · rename_i heq; cases heq
  · rename_i heq; cases heq; exact absurd rfl hne
  · rename_i heq; cases heq; exact absurd rfl hnd
  · rename_i heq; cases heq; rfl
  · rename_i h3 h4; cases h4; exact absurd rfl (h3 ty)

/-- a wrapped dict comes back as the dict of its data -/
theorem dec_wrapped (ctx : Registry) (d : List (String × JVal)) (ht : d.lookup "_type" = some (.str "dict")) :
    dec ctx (.obj d) = PyVal.dict ((decDataOf ctx d).getD []) := by
  -- (`dec.eq_def`, here and below: the definition as one equation; named `dec`, its equations case by case are derived first)
  simp only [dec.eq_def, ht]

/-- a dict travels as an object of its pairs, wrapped when it uses the reserved key; either way it comes back as the dict
of what its pairs come back as -/
theorem dec_encDict (ctx : Registry) (d : List (String × PyVal)) (hkv : decKVs ctx (encKVs d) = normKVs d) :
    dec ctx (if d.any (·.1 == "_type") then .obj [("_type", .str "dict"), ("_data", .obj (encKVs d))] else .obj (encKVs d))
      = .dict (normKVs d) := by
  by_cases hk : d.any (·.1 == "_type") = true
  · rw [if_pos hk, dec_wrapped ctx _ rfl]
    -- the `_data` field of the wrapper is found by evaluation
    exact congrArg PyVal.dict hkv
  · simp only [if_neg hk, dec.eq_def, lookup_encKVs_none "_type" d (Bool.eq_false_iff.mpr hk), hkv]

mutual
/-- **round trip**: every supported value — scalars, lists, tuples, string-keyed dicts, plain
attribute objects, custom-serialised objects, nested in any combination to any depth — comes back
from save → JSON → load as an equal value of the same class, tuples as lists -/
theorem codec_roundtrip (ctx : Registry) : ∀ (v : PyVal), Supported ctx v = true → dec ctx (enc v) = norm v
  | .none, _ | .bool _, _ | .int _, _ | .str _, _ => rfl
  | .list l, h | .tuple l, h => by
      simp only [enc.eq_def, dec.eq_def, norm.eq_def, roundtrip_list ctx l h]
  | .dict d, h => by
      exact dec_encDict ctx d (roundtrip_kvs ctx d h)
  | .obj c m .auto a, h => by
      simp only [Supported.eq_def, Bool.and_eq_true, beq_iff_eq, bne_iff_ne, ne_eq] at h
      obtain ⟨⟨⟨⟨h1, h2⟩, h2d⟩, h3⟩, h4⟩ := h
      simp only [enc.eq_def, norm.eq_def, encPublic_eq_encKVs a h3]
      rw [dec_typed ctx _ c rfl h2 h2d, h1]
      exact congrArg (PyVal.obj c m .auto) (roundtrip_kvs ctx a h4)
  | .obj c m .custom a, h => by
      simp only [Supported.eq_def, Bool.and_eq_true, beq_iff_eq, bne_iff_ne, ne_eq] at h
      obtain ⟨⟨⟨h1, h2⟩, h2d⟩, h4⟩ := h
      simp only [enc.eq_def, norm.eq_def]
      rw [dec_typed ctx _ c rfl h2 h2d, h1]
      -- the record the class handed out travels as a dict of its own
      simp only [decDataC, String.reduceBEq, Bool.false_eq_true, ↓reduceIte, dec_encDict ctx a (roundtrip_kvs ctx a h4)]

theorem roundtrip_list (ctx : Registry) : ∀ (l : List PyVal), supList ctx l = true →
    decList ctx (encList l) = normList l
  | [], _ => rfl
  | v :: vs, h => by
      simp only [supList, Bool.and_eq_true] at h
      simp only [encList, decList, normList, codec_roundtrip ctx v h.1, roundtrip_list ctx vs h.2]

theorem roundtrip_kvs (ctx : Registry) : ∀ (d : List (String × PyVal)), supKVs ctx d = true →
    decKVs ctx (encKVs d) = normKVs d
  | [], _ => rfl
  | (k, v) :: rest, h => by
      simp only [supKVs, Bool.and_eq_true] at h
      simp only [encKVs, decKVs, normKVs, codec_roundtrip ctx v h.1, roundtrip_kvs ctx rest h.2]
end

/-- a dict that uses the reserved key, holding another -/
example : Supported [] (.dict [("_type", .str "weapon"), ("dmg", .int 3), ("in", .list [.dict [("_type", .int 1), ("_data", .none)]])]) = true := by
  decide +kernel

/-- ... and a custom-serialised object whose own record uses the reserved keys -/
example : Supported [("Relic", ("game", .custom))]
    (.obj "Relic" "game" .custom [("_type", .str "weapon"), ("power", .int 3), ("_data", .dict [("_type", .none)])]) = true := by
  decide +kernel

/-- non-vacuity: a concrete nested value (object in a dict in a list in an object's data) is supported -/
example : Supported [("Card", ("game", .auto)), ("Wallet", ("bardic.stdlib.economy", .custom))]
    (.obj "Wallet" "bardic.stdlib.economy" .custom
      [("gold", .int 5), ("log", .list [.dict [("c", .obj "Card" "game" .auto [("name", .str "Fool"), ("pos", .tuple [.int 1, .int 2])])]])]) = true := by
  decide +kernel

end Bardic.Codec
