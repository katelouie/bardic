import Bardic.Extracted.UndoCap
import Bardic.Extracted.EntryPoints
import Bardic.Extracted.ErrorSites
import Bardic.Extracted.TokenKinds
import Bardic.Extracted.StoryWrites
import Bardic.Extracted.LoopPaths
import Bardic.Engine.Api
/-!
# Theorems over tables re-extracted from /repo's source on every run

Each theorem compares a table (`lean/Bardic/Extracted/*.lean`, rewritten by `harness/extract.py` before every build) with
what is expected of it; the expectations that are lists — `documentedKinds`, `indexNames`, `reviewedConsumers`,
`amountFunctions` — are kept by hand in this file.  The proofs are kernel evaluation: the facts are finite.
-/
namespace Bardic

/-- the only assignment to `undo_stack` in each engine is `deque(maxlen=undoCap)` -/
theorem undoCap_extracted :
    Extracted.undoCapMain = [some undoCap] ∧ Extracted.undoCapBrowser = [some undoCap] := by decide

/-- every CLI entry point that accepts a `.bard` file compiles through a file-based, include-resolving
function (`compile_file`, `parse_file`, or the bundler, which itself uses `compile_file`); none
compiles the file's bare text with `compile_string` / `parse` -/
theorem entryPoints_resolve_includes :
    Extracted.entryPoints.all (fun e =>
      !e.2.contains "compile_string" && !e.2.contains "parse" &&
      (e.2.contains "compile_file" || e.2.contains "parse_file" || e.2.contains "create_browser_bundle")) = true ∧
    Extracted.entryPoints.length = 4 := by decide +kernel

/-- **no statement of either engine writes through an alias into the compiled story** (subscript /
attribute assignment, `del`, augmented assignment or a mutating method on a name that aliases
`self.story` / `self.passages` / a passage, choice or token taken from them) — re-extracted from the
source and re-checked on every run -/
theorem storyWrites_none : Extracted.storyWrites = [] := by decide

/-- the documented token kinds (C12) -/
def documentedKinds : List String :=
  ["text", "expression", "inline_conditional", "render_directive", "input", "python_statement", "python_block",
   "hook", "conditional", "for_loop", "jump", "join_marker"]

/-- **token kinds, re-established on every run**: every kind the parser can emit is documented and has
a branch in the engine's renderer; and every emitted kind that can carry choices or jumps (it has
`content` / `branches` / `choices` keys, or is a jump) has a branch in the story-graph walker — so
`renderToks_sub` covers everything the compiler can produce -/
theorem tokenKinds_covered :
    Extracted.emittedKinds.all (fun k => documentedKinds.contains k.1 && Extracted.engineKinds.contains k.1) = true ∧
    Extracted.emittedKinds.all (fun k =>
      !(k.2.contains "content" || k.2.contains "branches" || k.2.contains "choices" || k.1 == "jump")
        || Extracted.graphKinds.contains k.1) = true := by decide +kernel

/-- the index expressions a diagnostic site may report: the 0-based index of the offending line in
the combined text (`format_error` adds 1 and maps it through the line map, see `display_origin`) -/
def indexNames : List String := ["i", "start_index", "line_idx", "line_num", "error_line", "start_index+j"]

/-- **every `format_error` call site passes the 0-based index of the construct's line, unshifted**,
and so does every call that forwards a line index to a reporting function -/
theorem errorSites_unshifted :
    Extracted.errorSites.all (fun s => s.2.2.2.2 == 0 && indexNames.contains s.2.2.2.1) = true ∧
    Extracted.lineForwards.all (fun s => s.2.2.2.2.2 == 0 && indexNames.contains s.2.2.2.2.1) = true := by
  decide +kernel

/-- how the functions that report a number of used lines compute it (function, amount, initial scanning index):
 * the two Python-block extractors start scanning at `start_index + 1` and answer `i - start_index + 1` (≥ 2);
 * `extract_multiline_expression` answers `1` or scans from `start_index + 1` and answers `i - start_index` (≥ 1);
 * the `@if` / `@for` extractors scan from the opener line itself, whose branch advances by the literal 1 before any
   exit of the loop (rows of `loopPaths`), and answer `i - start_index` (≥ 1);
 * the choice-block collector may answer 0 — it has one caller (`_parse_source`; `loopPaths_advance` counts the uses), which
   also advances by the literal 1. -/
def reviewedConsumers : List (String × String × String) :=
  [("_extract_py_new_syntax", "i - start_index + 1", "start_index + 1"),
   ("_extract_py_old_syntax", "i - start_index + 1", "start_index + 1"),
   ("extract_conditional_block", "i - start_index", "start_index"),
   ("extract_loop_block", "i - start_index", "start_index"),
   ("extract_join_choice_block", "i - start_index", "start_index"),
   ("extract_join_choice_block", "0", "start_index"),
   ("extract_multiline_expression", "i - start_index", "start_index + 1"),
   ("extract_multiline_expression", "1", "start_index + 1")]

def amountFunctions : List String :=
  ["extract_python_block", "extract_multiline_expression", "extract_loop_block", "extract_conditional_block",
   "extract_join_choice_block"]

/-- **every path to the next iteration of every `while` loop of the compiler advances the loop index**
(table re-extracted from the Python AST on every run by a must-analysis over if / try / with / continue /
break / return / raise): each `continue` and each end of a loop body is reached only after the index was
increased — by a positive literal, or by an amount reported by one of the line-consuming functions, whose ways
of computing that amount are exactly the reviewed ones; no loop assigns its index in any other way; the choice-block
amount (which may be 0) is used in one place only.  (Of a row of `loopPaths`, `.2.2.2.1` is the index variables, the eighth
component "advanced by something on every path", the ninth the non-literal amounts; the seventh, "advanced by a positive
literal on every path", is not read: that the one loop using the choice-block amount also advances by a literal is in the
table, not in this statement.) -/
theorem loopPaths_advance :
    Extracted.loopPaths.all (fun r => r.2.2.2.2.2.2.2.1 &&
      r.2.2.2.2.2.2.2.2.all (fun a => a == "lines_consumed" || a == "nested_lines" || a == "nested_lines_consumed") &&
      r.2.2.2.1 != "") = true ∧
    Extracted.amountSources.all (fun s => amountFunctions.contains s.2.2.2) = true ∧
    Extracted.consumers.all (fun c => reviewedConsumers.contains (c.2.1, c.2.2.2.1, c.2.2.2.2)) = true ∧
    (Extracted.amountSources.filter (fun s => s.2.2.2 == "extract_join_choice_block")).length = 1 ∧
    Extracted.loopPaths.length ≥ 60 := by
  decide +kernel

end Bardic
