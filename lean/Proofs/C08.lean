import Proofs.Lemmas.Seq
import Proofs.Lemmas.NavInv
/-!
# C08 — jumps act where they stand; cycles are RuntimeErrors; the engine stays usable
-/
namespace Bardic
variable {S : Sem}

/-- **a jump transfers control at the point it is reached**: what was rendered before it is kept
(text, directives, state changes), everything after it in that token list is skipped — it is not
rendered, not executed, and cannot fail -/
theorem render_stops_at_jump (cfg : RCfg S) (pre post : List Tok) (t a : String) (rs rs1 : RS S.V)
    (r1 : ROut S.V) (hm : ∀ x ∈ pre, x.isJoinMarker = false)
    (hpre : renderToks S cfg pre rs = (rs1, .ok r1)) (hnj : r1.jump = none) :
    renderToks S cfg (pre ++ Tok.jump t a :: post) rs =
      (rs1, .ok { text := r1.text, jump := some t, dirs := r1.dirs }) := by
  rw [renderToks_append cfg _ pre rs hm, hpre, seqR_ok_nojump _ _ _ hnj,
    show renderToks S cfg (Tok.jump t a :: post) rs1 = (rs1, .ok { jump := some t }) from rfl,
    RRes.ok_bind, String.append_empty, List.append_nil]

/-- only the first jump reached takes effect: a jump already found stops the list -/
theorem render_first_jump_wins (cfg : RCfg S) (pre post : List Tok) (rs rs1 : RS S.V) (r1 : ROut S.V)
    (hm : ∀ x ∈ pre, x.isJoinMarker = false)
    (hpre : renderToks S cfg pre rs = (rs1, .ok r1)) (hj : r1.jump.isSome = true) :
    renderToks S cfg (pre ++ post) rs = (rs1, .ok r1) := by
  rw [renderToks_append cfg _ pre rs hm, hpre]
  exact if_pos hj

/-- re-entering a passage already visited in this chain is reported at once as a `RuntimeError`,
with nothing changed -/
theorem gotoLoop_revisit (c : ECfg S) (recur : String → Live S.V → NRes S (Output S.V)) (n : Nat)
    (visited : List String) (cid : String) (accC : List String) (accD : List (Dir S.V)) (l : Live S.V)
    (h : visited.contains cid = true) :
    ∃ m, gotoLoop c recur (n + 1) visited cid accC accD l = (l, .error ⟨.runtimeError, m⟩) :=
  ⟨_, if_pos h⟩

/-- running out of recursion depth (a cycle of top-level jumps) surfaces as `RecursionError`, which
is a `RuntimeError` -/
theorem goto_out_of_fuel (c : ECfg S) (spec : String) (l : Live S.V) :
    ∃ m, goto c 0 spec l = (l, .error ⟨.recursionError, m⟩) ∧ ExcKind.recursionError.isRuntime = true :=
  ⟨_, rfl, rfl⟩

/-- **the engine remains usable after any failed navigation**: no parameter scope is left, the used
one-time choices are untouched, a displayed output is still cached, and (by `undo_choose`) a single
undo restores the situation before the failed choice -/
theorem usable_after_failed_goto (c : ECfg S) (fuel : Nat) (spec : String) (l : Live S.V) :
    (goto c fuel spec l).1.scopes = l.scopes ∧ (goto c fuel spec l).1.used = l.used ∧
    (l.out.isSome → (goto c fuel spec l).1.out.isSome) :=
  ⟨(goto_frame c fuel spec l).scopes, (goto_frame c fuel spec l).used, goto_outKept c fuel spec l⟩

end Bardic
