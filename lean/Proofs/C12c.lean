import Proofs.Lemmas.ParserSpec
/-!
# C12 on the text-level parser model: what every returned story satisfies

`parseStory_wf`: whenever the model of `parse` returns a story (for any text and any behaviour of CPython's parser),
* every passage is keyed by its own id,
* the initial passage exists (it is the `@start` passage, else `Start`, else the first passage — `determineInitial`)
  and has no parameter without default (so that an engine can enter it without arguments),
* the argument validator accepted every top-level choice and jump (`validateArgs … = ok`): each target is `@join` or a
  defined passage and the arguments have a shape its parameters accept (`validateCall`).

It is the postcondition of `parseLines_sat` (`Proofs/Lemmas/ParserSpec.lean`), read with every failure admitted.
-/
namespace Bardic.Parser

/-- "if the call returns a value, the value satisfies `P`" -/
structure Post {α} (x : PM α) (P : α → Prop) : Prop where
  h : ∀ a, x = .ok a → P a

theorem coreLoop_keys (O : PyOracle) (lines : Lines) : ∀ (f i : Nat) (s : PSt), KeysOk s.passages →
    Post (coreLoop O lines f i s) (fun s' => KeysOk s'.passages) :=
  fun f i s hk => ⟨fun _ ha =>
    (coreLoop_sat (anything_deliberate _) O lines (Nat.le_refl _) f i s (.admitted trivial)).ok_of ha hk⟩

/-- **C12 for the parser model**: every story `parse` returns (for any text, any behaviour of CPython's parser) keys each
passage by its own id, names an existing initial passage that can be entered without arguments, and has passed the
argument validator on every top-level choice and jump -/
theorem parseStory_wf (O : PyOracle) (src : Line) (p : Parsed) (h : parseStory O src = .ok p) : p.WF O :=
  (parseLines_sat O _ (anything_deliberate _)).ok_of h

/-! ### what the validator's acceptance means -/

/-- an accepted call names `@join` or a defined passage -/
theorem validateCall_target (O : PyOracle) (ps : List (Line × PPassage)) (t a : Line)
    (h : validateCall O ps t a = .ok ()) : strEq t "@join" = true ∨ ∃ tp, ps.lookup t = some tp := by
  by_cases hj : strEq t "@join" = true
  · exact .inl hj
  · cases hl : ps.lookup t with
    | some tp => exact .inr ⟨tp, rfl⟩
    | none => rw [validateCall, if_neg hj, hl] at h; cases h

/-- **every top-level choice of a returned story targets `@join` or a defined passage** -/
theorem parseStory_choice_targets (O : PyOracle) (src : Line) (p : Parsed) (h : parseStory O src = .ok p) :
    ∀ kv ∈ p.passages, ∀ ch ∈ kv.2.choices,
      strEq ((jGetStr ch "target").getD []) "@join" = true ∨ ∃ tp, p.passages.lookup ((jGetStr ch "target").getD []) = some tp := by
  intro kv hkv ch hch
  have hw := (parseStory_wf O src p h).2.2
  exact validateCall_target O _ _ _ ((validateArgs_sat (anything_deliberate 0) O _ _).ok_of hw kv hkv ch hch)

end Bardic.Parser
