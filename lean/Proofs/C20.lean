import Bardic.Stdlib
/-!
# C20 — standard-library game objects keep their invariants under any operation sequence
-/
namespace Bardic.Stdlib

inductive WOp | spend (a : Int) | earn (a : Int) | setGold (v : Int)

def Wallet.step (w : Wallet) : WOp → Wallet
  | .spend a => (w.spend a).1
  | .earn a => w.earn a
  | .setGold v => w.setGold v

theorem spend_all_or_nothing (w : Wallet) (a : Int) :
    ((w.spend a).2 = true ∧ (w.spend a).1.gold = w.gold - a ∧ a ≤ w.gold) ∨
    ((w.spend a).2 = false ∧ (w.spend a).1 = w ∧ w.gold < a) := by
  unfold Wallet.spend
  split
  · exact Or.inl ⟨rfl, rfl, of_decide_eq_true ‹_›⟩
  · exact Or.inr ⟨rfl, rfl, Int.not_le.mp (mt decide_eq_true ‹_›)⟩

theorem Wallet.new_nonneg (g : Int) : 0 ≤ (Wallet.new g).gold := Int.le_max_left 0 g

theorem Wallet.step_nonneg (w : Wallet) (op : WOp) (h : 0 ≤ w.gold) : 0 ≤ (w.step op).gold := by
  cases op with
  | spend a =>
    show 0 ≤ (w.spend a).1.gold
    rcases spend_all_or_nothing w a with ⟨_, h2, h3⟩ | ⟨_, h2, _⟩
    · rw [h2]; exact Int.sub_nonneg_of_le h3
    · rw [h2]; exact h
  | earn a => exact Int.add_nonneg h (Int.le_max_left 0 a)
  | setGold v => exact Int.le_max_left 0 v

/-- **gold never goes negative**, under any sequence of operations with any integer arguments -/
theorem wallet_nonneg (g : Int) (ops : List WOp) : 0 ≤ (ops.foldl Wallet.step (Wallet.new g)).gold :=
  List.foldlRecOn ops Wallet.step (Wallet.new_nonneg g) fun w h op _ => Wallet.step_nonneg w op h

theorem wallet_dict_roundtrip (w : Wallet) (h : 0 ≤ w.gold) : Wallet.new w.gold = w :=
  congrArg Wallet.mk (Int.max_eq_right h)

theorem weightOf_cons (x : Item) (l : List Item) : weightOf (x :: l) = x.weight + weightOf l := rfl

theorem weightOf_append (a b : List Item) : weightOf (a ++ b) = weightOf a + weightOf b := by
  simp only [weightOf, List.map_append, List.sum_append]

/-- **`add` never takes the inventory over its limit**, and refuses without changing anything -/
theorem add_respects_limit (i : Inventory) (it : Item) :
    ((i.add it).2 = true ∧ (i.add it).1.items = i.items ++ [it] ∧ (i.add it).1.curWeight ≤ i.maxWeight
        ∧ (i.add it).1.maxWeight = i.maxWeight) ∨
    ((i.add it).2 = false ∧ (i.add it).1 = i) := by
  unfold Inventory.add
  split
  · rename_i h
    refine Or.inl ⟨rfl, rfl, ?_, rfl⟩
    show weightOf (i.items ++ [it]) ≤ i.maxWeight
    rw [weightOf_append, show weightOf [it] = it.weight from Int.add_zero _]
    exact h
  · exact Or.inr ⟨rfl, rfl⟩

theorem add_keeps_within (i : Inventory) (it : Item) (h : i.curWeight ≤ i.maxWeight) :
    (i.add it).1.curWeight ≤ (i.add it).1.maxWeight := by
  rcases add_respects_limit i it with ⟨_, _, h3, h4⟩ | ⟨_, h2⟩
  · rw [h4]; exact h3
  · rw [h2]; exact h

inductive IOp | add (it : Item) | remove (n : String) | removeAll (n : String) | clear

def Inventory.step (i : Inventory) : IOp → Inventory
  | .add it => (i.add it).1
  | .remove n => (i.remove n).1
  | .removeAll n => (i.removeAll n).1
  | .clear => i.clear

theorem removeFirst_sublist (n : String) : ∀ {l l' : List Item}, removeFirst n l = some l' → l'.Sublist l
  | x :: rest, l', h => by
    dsimp only [removeFirst] at h
    split at h
    · cases h; exact List.sublist_cons_self x rest
    · obtain ⟨r, hr, rfl⟩ := Option.map_eq_some_iff.mp h
      exact (removeFirst_sublist n hr).cons_cons x

theorem weightOf_sublist_le {l' l : List Item} (hs : l'.Sublist l) (hw : ∀ it ∈ l, 0 ≤ it.weight) :
    weightOf l' ≤ weightOf l := by
  induction hs with
  | slnil => exact Int.le_refl _
  | cons x _ ih =>
    exact Int.le_trans (ih fun it h => hw it (List.mem_cons_of_mem x h)) (Int.le_add_of_nonneg_left (hw x List.mem_cons_self))
  | cons_cons x _ ih => exact Int.add_le_add_left (ih fun it h => hw it (List.mem_cons_of_mem x h)) _

/-- what every operation preserves, given items of non-negative weight -/
def Inventory.Within (maxW : Int) (i : Inventory) : Prop :=
  (∀ it ∈ i.items, 0 ≤ it.weight) ∧ i.curWeight ≤ i.maxWeight ∧ i.maxWeight = maxW

/-- `remove`, `removeAll`, `clear` and a refused `add` leave a sublist of the items, which weighs no more;
an accepted `add` has checked the limit. -/
theorem Inventory.step_within {maxW : Int} (i : Inventory) (op : IOp) (hop : ∀ it, op = IOp.add it → 0 ≤ it.weight)
    (h : i.Within maxW) : (i.step op).Within maxW := by
  obtain ⟨hw, hle, hm⟩ := h
  have sub : ∀ {j : Inventory}, j.items.Sublist i.items → j.maxWeight = i.maxWeight → j.Within maxW :=
    fun hs hj => ⟨fun it hit => hw it (hs.subset hit), hj ▸ Int.le_trans (weightOf_sublist_le hs hw) hle, hj ▸ hm⟩
  cases op with
  | add it =>
    dsimp only [Inventory.step]
    rcases add_respects_limit i it with ⟨_, h2, h3, h4⟩ | ⟨_, h2⟩
    · refine ⟨fun x hx => ?_, h4 ▸ h3, h4 ▸ hm⟩
      rcases List.mem_append.mp (h2 ▸ hx) with hx | hx
      · exact hw x hx
      · exact List.mem_singleton.mp hx ▸ hop it rfl
    · rw [h2]; exact sub (List.Sublist.refl _) rfl
  | remove n =>
    dsimp only [Inventory.step, Inventory.remove]
    split
    · exact sub (removeFirst_sublist n ‹_›) rfl
    · exact sub (List.Sublist.refl _) rfl
  | removeAll n => exact sub List.filter_sublist rfl
  | clear => exact sub (List.nil_sublist _) rfl

/-- items with non-negative weights: the limit holds after any sequence of add / remove / clear -/
theorem inventory_weight_le (maxW : Int) (h0 : 0 ≤ maxW) (ops : List IOp)
    (hpos : ∀ op ∈ ops, ∀ it, op = IOp.add it → 0 ≤ it.weight) :
    let i := ops.foldl Inventory.step ⟨[], maxW⟩
    i.curWeight ≤ i.maxWeight ∧ i.maxWeight = maxW :=
  have init : Inventory.Within maxW ⟨[], maxW⟩ := ⟨fun _ h => (nomatch h), h0, rfl⟩
  (List.foldlRecOn ops Inventory.step init fun i h op hop => i.step_within op (hpos op hop) h).2

/-- **buy is an atomic exchange** (non-negative price): either the price is paid and a copy of the
item is added, or wallet and inventory are both exactly as before; shop stock is not an output of
`buy` at all (never mutated) -/
theorem buy_atomic (s : Shop) (n : String) (w : Wallet) (inv : Inventory) (hp : 0 ≤ s.buyPrice n) :
    (∃ it, s.find n = some it ∧ (s.buy n w inv).2.2 = true ∧ (s.buy n w inv).1.gold = w.gold - s.buyPrice n ∧
        (s.buy n w inv).2.1.items = inv.items ++ [it]) ∨
    ((s.buy n w inv).2.2 = false ∧ (s.buy n w inv).1 = w ∧ (s.buy n w inv).2.1 = inv) := by
  unfold Shop.buy
  cases hf : s.find n with
  | none => exact Or.inr ⟨rfl, rfl, rfl⟩
  | some it =>
    dsimp only [Wallet.spend, Inventory.add]
    by_cases hc : w.canAfford (s.buyPrice n) = true
    · rw [if_pos hc]
      by_cases ha : inv.curWeight + it.weight ≤ inv.maxWeight
      · rw [if_pos ha]; exact Or.inl ⟨it, rfl, rfl, rfl, rfl⟩
      · -- the refund: `earn` adds `max 0 price`, which is the price paid because that is not negative
        rw [if_neg ha]
        refine Or.inr ⟨rfl, congrArg Wallet.mk ?_, rfl⟩
        show w.gold - s.buyPrice n + max 0 (s.buyPrice n) = w.gold
        rw [Int.max_eq_right hp, Int.sub_add_cancel]
    · rw [if_neg hc]; exact Or.inr ⟨rfl, rfl, rfl⟩

/-- **sell is an atomic exchange**: the first item of that name leaves the inventory and its sell
price (never negative gold) is earned, or nothing changes -/
theorem sell_atomic (s : Shop) (n : String) (w : Wallet) (inv : Inventory) :
    (∃ it l, inv.get n = some it ∧ removeFirst n inv.items = some l ∧ (s.sell n w inv).2.2 = true ∧
        (s.sell n w inv).1.gold = w.gold + max 0 (s.sellPrice it.value) ∧ (s.sell n w inv).2.1.items = l) ∨
    ((s.sell n w inv).2.2 = false ∧ (s.sell n w inv).1 = w ∧ (s.sell n w inv).2.1 = inv) := by
  unfold Shop.sell
  cases hg : inv.get n with
  | none => exact Or.inr ⟨rfl, rfl, rfl⟩
  | some it =>
    unfold Inventory.remove
    cases hr : removeFirst n inv.items with
    | none => exact Or.inr ⟨rfl, rfl, rfl⟩
    | some l => exact Or.inl ⟨it, l, rfl, rfl, rfl, rfl, rfl⟩

theorem clamp_range (lo hi v : Int) (h : lo ≤ hi) : lo ≤ clamp lo hi v ∧ clamp lo hi v ≤ hi :=
  ⟨Int.le_max_left _ _, Int.max_le.mpr ⟨h, Int.min_le_left _ _⟩⟩

theorem clamp_of_range {lo hi v : Int} (h : lo ≤ v ∧ v ≤ hi) : clamp lo hi v = v := by
  rw [clamp, Int.min_eq_right h.2, Int.max_eq_right h.1]

def Rel.InRange (r : Rel) : Prop :=
  0 ≤ r.trust ∧ r.trust ≤ 100 ∧ 0 ≤ r.comfort ∧ r.comfort ≤ 100 ∧ -10 ≤ r.openness ∧ r.openness ≤ 10

inductive ROp | addTrust (a : Int) | addComfort (a : Int) | addOpenness (a : Int)
  | setTrust (v : Int) | setComfort (v : Int) | setOpenness (v : Int) | discuss (t : String)

def Rel.step (r : Rel) : ROp → Rel
  | .addTrust a => r.addTrust a
  | .addComfort a => r.addComfort a
  | .addOpenness a => r.addOpenness a
  | .setTrust v => r.setTrust v
  | .setComfort v => r.setComfort v
  | .setOpenness v => r.setOpenness v
  | .discuss t => r.discuss t

theorem Rel.new_inRange (n : String) (t c o : Int) (ts : List String) : (Rel.new n t c o ts).InRange :=
  have pct := fun v => clamp_range 0 100 v (by decide)
  have opn := clamp_range (-10) 10 o (by decide)
  ⟨(pct t).1, (pct t).2, (pct c).1, (pct c).2, opn.1, opn.2⟩

/-- every operation leaves a stat alone or stores a `clamp` into the stat's range -/
theorem Rel.step_inRange (r : Rel) (op : ROp) (h : r.InRange) : (r.step op).InRange := by
  -- `r` is taken apart too: a kept bound is then compared with a field of the new record, not `r` with the whole record
  rcases r, h with ⟨⟨⟩, t0, t1, c0, c1, o0, o1⟩
  have pct := fun v => clamp_range 0 100 v (by decide)
  have opn := fun v => clamp_range (-10) 10 v (by decide)
  cases op with
  | addTrust _ | setTrust _ => exact ⟨(pct _).1, (pct _).2, c0, c1, o0, o1⟩
  | addComfort _ | setComfort _ => exact ⟨t0, t1, (pct _).1, (pct _).2, o0, o1⟩
  | addOpenness _ | setOpenness _ => exact ⟨t0, t1, c0, c1, (opn _).1, (opn _).2⟩
  | discuss _ => exact ⟨t0, t1, c0, c1, o0, o1⟩

/-- **stats stay within their documented ranges** under any operation sequence -/
theorem relationship_ranges (n : String) (t c o : Int) (ts : List String) (ops : List ROp) :
    (ops.foldl Rel.step (Rel.new n t c o ts)).InRange :=
  List.foldlRecOn ops Rel.step (Rel.new_inRange n t c o ts) fun r h op _ => Rel.step_inRange r op h

/-- **threshold events fire exactly on upward crossings** -/
theorem threshold_iff_upcross (r : Rel) (a : Int) :
    (r.addTrust a).events = r.events
      ++ (if r.trust < 60 ∧ 60 ≤ (r.addTrust a).trust then [60] else [])
      ++ (if r.trust < 80 ∧ 80 ≤ (r.addTrust a).trust then [80] else []) := rfl

theorem rel_dict_roundtrip (r : Rel) (h : r.InRange) (hn : r.topics.eraseDups = r.topics) : r.roundTrip = r := by
  obtain ⟨t0, t1, c0, c1, o0, o1⟩ := h
  cases r
  simp only [Rel.roundTrip, Rel.new, clamp_of_range ⟨t0, t1⟩, clamp_of_range ⟨c0, c1⟩, clamp_of_range ⟨o0, o1⟩]
  rw [hn]

theorem sum_bounds (sides : Int) : ∀ (outs : List Int), (∀ x ∈ outs, 1 ≤ x ∧ x ≤ sides) →
    (outs.length : Int) ≤ outs.sum ∧ outs.sum ≤ outs.length * sides
  | [], _ => by simp
  | x :: xs, h => by
    have hx := h x List.mem_cons_self
    have := sum_bounds sides xs fun y hy => h y (List.mem_cons_of_mem x hy)
    simp only [List.sum_cons, List.length_cons, Int.natCast_succ, Int.add_mul, Int.one_mul]
    omega

/-- **rolls stay within the bounds of their notation** `NdS+M`, whatever the random source does
within `randint(1, S)` -/
theorem roll_bounds (n : Nat) (sides modifier : Int) (outs : List Int) (hlen : outs.length = n)
    (h : ∀ x ∈ outs, 1 ≤ x ∧ x ≤ sides) :
    n + modifier ≤ rollWith outs modifier ∧ rollWith outs modifier ≤ n * sides + modifier := by
  have := sum_bounds sides outs h
  subst hlen
  exact ⟨Int.add_le_add_right this.1 _, Int.add_le_add_right this.2 _⟩

end Bardic.Stdlib
