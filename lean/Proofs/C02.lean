import Proofs.Lemmas.Choose
import Proofs.Lemmas.Seq
/-!
# C02 — an index selects what was shown; a one-time choice is recorded when taken and is not offered again
-/
namespace Bardic
variable {S : Sem}

/-- what `choose` records for the choice it takes -/
def usedAfter (e : Eng S.V) (cur : Output S.V) (ch : OChoice) : List String :=
  if !ch.c.sticky then setInsert e.live.used (choiceId cur.pid ch.text ch.c.target) else e.live.used

/-- **a one-time choice is recorded the moment it is taken**: after `choose i` with a valid index the set of used
choices is exactly the old set plus the identity (passage, shown text, target) of the `i`-th *shown* choice when
that choice is one-time, and unchanged when it is sticky — whether the navigation that follows succeeds, fails,
runs hooks or stays in the passage (`-> @join`) -/
theorem doChoose_used (c : ECfg S) (e : Eng S.V) (i : Int) (cur : Output S.V)
    (hc : e.live.out = some cur) (h0 : 0 ≤ i) (h1 : i < cur.choices.length) :
    (e.doChoose c i).1.live.used = usedAfter e cur (cur.choices[i.toNat]!) := by
  simp only [doChoose_eq c e i cur hc h0 h1, markUsed_eq]
  exact (chooseNav_frame c _ _).used

theorem mem_setInsert (xs : List String) (x : String) : x ∈ setInsert xs x := by
  unfold setInsert; split
  · rename_i h; simpa using h
  · simp

/-- **a used one-time choice is not available**: when the identity of a one-time choice — current passage, its text
as it renders now, its target — is among the used ones, `_is_choice_available` answers False (whatever its
condition says) -/
theorem isAvail_used (cfg : RCfg S) (cur : Option String) (used : List String) (ch : Choice) (pre : Option String)
    (rs rs1 : RS S.V) (t : String) (hs : ch.sticky = false)
    (ht : renderChoiceText cfg ch pre rs = (rs1, .ok t))
    (hu : used.contains (choiceId (curStr cur) t ch.target) = true) :
    isAvail cfg cur used ch pre rs = (rs1, .ok false) := by
  unfold isAvail
  simp only [hs, Bool.not_false, if_true, ht, hu]

/-- the section filter of a passage with `@join` markers: every choice the filter loop hands out satisfies the
section test it was given (in the main engine: its section is the passage's current one) -/
theorem offerChoices_sec (cfg : RCfg S) (cur : Option String) (used : List String) (secOk : Choice → Bool) :
    ∀ (all : List (Choice × Option String × Bool)) (rs rs' : RS S.V) (os : List OChoice),
      offerChoices cfg cur used secOk all rs = (rs', .ok os) → ∀ o ∈ os, secOk o.c = true := by
  intro all rs rs' os h o ho
  obtain ⟨_, _, _, _, hs, _⟩ := offerChoices_mem cfg cur used secOk all rs rs' os h o ho
  exact hs

/-- … and was available when the loop looked at it -/
theorem offerChoices_avail (cfg : RCfg S) (cur : Option String) (used : List String) (secOk : Choice → Bool) :
    ∀ (all : List (Choice × Option String × Bool)) (rs rs' : RS S.V) (os : List OChoice),
      offerChoices cfg cur used secOk all rs = (rs', .ok os) →
      ∀ o ∈ os, ∃ pre blk rsA rsB, (o.c, pre, blk) ∈ all ∧ isAvail cfg cur used o.c pre rsA = (rsB, .ok true) := by
  intro all rs rs' os h o ho
  obtain ⟨pre, rsA, rsB, hx, _, ha⟩ := offerChoices_mem cfg cur used secOk all rs rs' os h o ho
  exact ⟨pre, _, rsA, rsB, hx, ha⟩

/-- in the main engine every choice a passage offers belongs to the passage's current `@join` section -/
theorem renderPassage_sec (c : ECfg S) (hv : c.variant = .main) (pid : String) (l l' : Live S.V) (o : Output S.V)
    (h : renderPassage c pid l = (l', .ok o)) : ∀ ch ∈ o.choices, (ch.c.sec == l.joinSec pid) = true := by
  revert h
  fun_cases renderPassage c pid l
  case case1 | case2 | case3 => intro h; cases h
  case case4 sec _ _ hos =>
    intro h ch hch
    cases h
    have := offerChoices_sec _ _ _ _ _ _ _ _ hos ch hch
    simp only [sec, hv] at this
    exact this

/-- after a `-> @join` choice the section shown offers choices of the next section and choices written inside the
blocks of the section just rendered — nothing else -/
theorem renderFromJoinMarker_sec (c : ECfg S) (idx : Nat) (l l' : Live S.V) (o : Output S.V)
    (h : renderFromJoinMarker c idx l = (l', .ok o)) :
    ∀ ch ∈ o.choices, ch.isBlock = true ∨ (ch.c.sec == idx + 1) = true := by
  revert h
  fun_cases renderFromJoinMarker c idx l
  case case1 | case2 | case3 | case4 => intro h; cases h
  case case5 r _ _ _ _ hos =>
    intro h ch hch
    cases h
    obtain ⟨pre, _, _, hx, _⟩ := offerChoices_mem _ _ _ _ _ _ _ _ hos ch hch
    rcases List.mem_append.mp hx with hx | hx
    · obtain ⟨y, hy, he⟩ := List.mem_map.mp hx
      exact .inr ((Prod.mk.inj he).1 ▸ (List.mem_filter.mp hy).2)
    · exact .inl (mem_dirChoices r.dirs _ hx).2

end Bardic
