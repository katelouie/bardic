import Bardic.Engine.Api
import Bardic.Params
import Std.Data.String.ToNat
/-!
# C07 — `_bind_arguments` agrees with Python's call rule on every validated call site
-/
namespace Bardic
variable {S : Sem}

theorem argKey_inj {i j : Nat} (h : argKey i = argKey j) : i = j := by
  have h' : toString i = toString j := (String.append_right_inj "arg_").mp h
  exact Nat.repr_injective h'

/-- keys that are not written: everything but `arg_i`, `arg_(i+1)`, … -/
theorem argDictGo_get_other {V} (pos : List V) (i : Nat) (acc : Env V) (k : String)
    (hk : ∀ j, i ≤ j → k ≠ argKey j) : Env.get? (argDictGo i pos acc) k = Env.get? acc k := by
  fun_induction argDictGo i pos acc with
  | case1 => rfl
  | case2 i v vs acc ih =>
    exact (ih fun j hj => hk j (Nat.le_of_succ_le hj)).trans (Env.get?_set_ne acc _ _ v (hk i (Nat.le_refl i)))

/-- the `n`-th key written holds the `n`-th positional -/
theorem argDictGo_get_key {V} (pos : List V) (i : Nat) (acc : Env V) (n : Nat) :
    Env.get? (argDictGo i pos acc) (argKey (i + n)) = (pos[n]?).or (Env.get? acc (argKey (i + n))) := by
  fun_induction argDictGo i pos acc generalizing n with
  | case1 => rfl
  | case2 i v vs acc ih =>
    cases n with
    | zero =>
      exact (argDictGo_get_other vs (i + 1) _ _ fun j hj e => Nat.ne_of_lt hj (argKey_inj e)).trans (Env.get?_set_self ..)
    | succ n =>
      rw [List.getElem?_cons_succ, ← Nat.add_assoc, Nat.add_right_comm, ih n]
      exact congrArg _ (Env.get?_set_ne acc (argKey i) _ v fun e =>
        Nat.ne_of_gt (Nat.lt_add_right n (Nat.lt_succ_self i)) (argKey_inj e))

theorem lookup_none_of_notin {V} (kws : List (String × V)) (k : String) (h : k ∉ kws.map (·.1)) :
    kws.lookup k = none :=
  List.lookup_eq_none_iff.mpr fun kv hkv => bne_iff_ne.mpr fun e => h (List.mem_map.mpr ⟨kv, hkv, e.symm⟩)

/-- with distinct keys, `d[k] = v` for each pair in turn leaves the first (only) `v` of a key, or what was there -/
theorem foldl_set_get_lookup {V} : ∀ (kws : List (String × V)) (base : Env V) (k : String),
    (kws.map (·.1)).Nodup →
    Env.get? (kws.foldl (fun acc kv => Env.set acc kv.1 kv.2) base) k = (kws.lookup k).or (Env.get? base k)
  | [], _, _, _ => rfl
  | (a, b) :: rest, base, k, hnd => by
    obtain ⟨ha, hrest⟩ := List.nodup_cons.mp hnd
    rw [List.foldl_cons, foldl_set_get_lookup rest _ k hrest, List.lookup_cons]
    by_cases hk : k = a
    · rw [hk, lookup_none_of_notin rest a ha, beq_self_eq_true', Env.get?_set_self]
      rfl
    · rw [Env.get?_set_ne base a k b hk, beq_false_of_ne hk]

/-- (`hkwarg`: no keyword is spelt `arg_<n>` — the engine files positionals under those keys in the same dict) -/
theorem argDict_get_key {V} (pos : List V) (kws : List (String × V)) (hkw : (kws.map (·.1)).Nodup)
    (hkwarg : ∀ kv ∈ kws, ∀ i, kv.1 ≠ argKey i) (k : Nat) : Env.get? (argDict pos kws) (argKey k) = pos[k]? := by
  have hk : argKey k ∉ kws.map (·.1) := fun h => by
    obtain ⟨kv, hkv, e⟩ := List.mem_map.mp h
    exact hkwarg kv hkv k e
  have := argDictGo_get_key pos 0 [] k
  rw [Nat.zero_add] at this
  rw [argDict, foldl_set_get_lookup _ _ _ hkw, lookup_none_of_notin kws _ hk, Option.none_or, this]
  exact Option.or_none

theorem argDict_get_name {V} (pos : List V) (kws : List (String × V)) (hkw : (kws.map (·.1)).Nodup)
    (n : String) (hn : ∀ i, n ≠ argKey i) : Env.get? (argDict pos kws) n = kws.lookup n := by
  rw [argDict, foldl_set_get_lookup _ _ _ hkw, argDictGo_get_other pos 0 [] n fun j _ => hn j]
  exact Option.or_none

/-- the engine's binding loop, for the k-th positional onwards, against the reference.  `res` holds none of the
parameters still to bind, so the engine's "provided multiple times" check never fires. -/
theorem bindArgs_eq_pyBindGo (c : ECfg S) (l : Live S.V) (pos : List S.V) (kws : List (String × S.V))
    (hkw : (kws.map (·.1)).Nodup) (hkwarg : ∀ kv ∈ kws, ∀ i, kv.1 ≠ argKey i) :
    ∀ (ps : List Param) (k : Nat) (res : Env S.V),
      (∀ p ∈ ps, ∀ i, p.name ≠ argKey i) → (∀ p ∈ ps, Env.contains res p.name = false) → (ps.map (·.name)).Nodup →
      bindArgs c l ps (argDict pos kws) k res =
        (match pyBindGo (S := S) (fun r d => S.eval (Env.update (evalCtx S c.cx l.vars l.scopes.head?) r) d)
                kws ps (pos.drop k) res with
          | .ok r => .ok r
          | .error (.defaultFailed p e) => .error (defaultFailed p e)
          | .error (.missing p) => .error ⟨.valueError, "Required parameter '" ++ p ++ "' not provided"⟩
          | .error _ => .error ⟨.other, ""⟩)
  | [], _, _, _, _, _ => rfl
  | p :: ps, k, res, hargs, hres, hnd => by
    obtain ⟨hp, hargs'⟩ := List.forall_mem_cons.mp hargs
    obtain ⟨hc, hres'⟩ := List.forall_mem_cons.mp hres
    obtain ⟨hpn, hnd'⟩ := List.nodup_cons.mp hnd
    have ih := fun k v => bindArgs_eq_pyBindGo c l pos kws hkw hkwarg ps k (Env.set res p.name v) hargs'
      (fun q hq => (congrArg Option.isSome (Env.get?_set_ne res p.name q.name v fun e =>
        hpn (List.mem_map.mpr ⟨q, hq, e⟩))).trans (hres' q hq)) hnd'
    rw [bindArgs, show Env.get? (argDict pos kws) ("arg_" ++ toString k) = (pos.drop k).head? from
      (argDict_get_key pos kws hkw hkwarg k).trans List.head?_drop.symm]
    cases hd : pos.drop k with
    | cons v rest =>
      have hrest : rest = pos.drop (k + 1) := by rw [← List.tail_drop, hd]; rfl
      rw [pyBindGo, hrest]
      exact ih (k + 1) v
    | nil =>
      have ih := fun v => hd ▸ ih k v
      rw [pyBindGo, List.head?_nil, argDict_get_name pos kws hkw p.name hp]
      cases kws.lookup p.name with
      | some v => exact hc ▸ ih v
      | none =>
        cases p.default with
        | none => rfl
        | some d =>
          dsimp only
          cases S.eval (Env.update (evalCtx S c.cx l.vars l.scopes.head?) res) d with
          | error e => rfl
          | ok v => exact ih v

/-- how the engine reports a reference-rule outcome -/
def bindOutcome : Except BindErr (Env S.V) → Except Exc (Env S.V)
  | .ok r => .ok r
  | .error (.defaultFailed p e) => .error (defaultFailed p e)
  | .error (.missing p) => .error ⟨.valueError, "Required parameter '" ++ p ++ "' not provided"⟩
  | .error _ => .error ⟨.other, ""⟩

/-- the reference binding fails only through a failing default, when every required parameter that is not bound
positionally is supplied by keyword -/
theorem pyBindGo_error (evalD : Env S.V → String → Except PyErr S.V) (kws : List (String × S.V)) (ps : List Param)
    (pos : List S.V) (res : Env S.V) :
    (∀ p ∈ ps.drop pos.length, p.default = none → p.name ∈ kws.map (·.1)) →
    ∀ err, pyBindGo evalD kws ps pos res = .error err → ∃ p e, err = .defaultFailed p e := by
  fun_induction pyBindGo evalD kws ps pos res with
  | case1 => exact fun _ _ => nofun
  | case2 p ps v pos res ih => exact ih
  | case3 p ps res v hl ih | case4 p ps res hl d hd v hev ih =>
    exact fun hreq => ih fun q hq => hreq q (List.mem_cons_of_mem p hq)
  | case5 p ps res hl d hd e hev => exact fun _ err h => ⟨p.name, e, (Except.error.inj h).symm⟩
  | case6 p ps res hl hd =>
    intro hreq
    obtain ⟨kv, hkv, e⟩ := List.mem_map.mp (hreq p List.mem_cons_self hd)
    exact absurd e.symm (bne_iff_ne.mp (List.lookup_eq_none_iff.mp hl kv hkv))

/-- on a validated call site the structural checks of Python's rule all pass -/
theorem pyCall_of_valid (evalD : Env S.V → String → Except PyErr S.V) (params : List Param)
    (pos : List S.V) (kws : List (String × S.V)) (hv : ValidCall params pos.length (kws.map (·.1))) :
    pyCall (S := S) evalD params pos kws = pyBindGo evalD kws params pos [] := by
  have h2 : kws.find? (fun kv => !(params.any (·.name == kv.1))) = none :=
    List.find?_eq_none.mpr fun kv hkv => by
      obtain ⟨p, hp, hpe⟩ := hv.known kv.1 (List.mem_map_of_mem hkv)
      have : params.any (·.name == kv.1) = true := List.any_eq_true.mpr ⟨p, hp, beq_iff_eq.mpr hpe⟩
      rw [this]; decide
  have h3 : (params.take pos.length).find? (fun p => kws.any (·.1 == p.name)) = none :=
    List.find?_eq_none.mpr fun p hp hany => by
      obtain ⟨kv, hkv, e⟩ := List.any_eq_true.mp hany
      exact hv.noDup p hp (eq_of_beq e ▸ List.mem_map_of_mem hkv)
  rw [pyCall, if_neg (Nat.not_lt.mpr hv.notTooMany), h2, h3]

/-- **C07, binding**: for every call site the validator accepts — positionals not more than the
parameters, keywords naming parameters, none supplied twice — the engine's `_bind_arguments` yields
exactly what Python's call rule yields (same bound values, defaults evaluated left to right seeing
earlier parameters in the caller's context; the same failure when a required one is missing or a
default fails), for arbitrary argument values and author code.  Besides what the validator checks (`ValidCall`, which
includes that no parameter is spelt `arg_<n>`: `noArgNames`, finding C07-F2) the parameter names are distinct (`hnd`). -/
theorem bind_eq_pyCall (c : ECfg S) (l : Live S.V) (params : List Param) (pos : List S.V)
    (kws : List (String × S.V)) (hv : ValidCall params pos.length (kws.map (·.1)))
    (hnd : (params.map (·.name)).Nodup) :
    bindArgs c l params (argDict pos kws) 0 [] =
      bindOutcome (pyCall (S := S)
        (fun r d => S.eval (Env.update (evalCtx S c.cx l.vars l.scopes.head?) r) d) params pos kws) := by
  have hkwarg : ∀ kv ∈ kws, ∀ i, kv.1 ≠ argKey i := fun kv hkv i => by
    obtain ⟨p, hp, hpe⟩ := hv.known kv.1 (List.mem_map_of_mem hkv)
    exact hpe ▸ hv.noArgNames p hp i
  rw [pyCall_of_valid _ _ _ _ hv, bindArgs_eq_pyBindGo c l pos kws hv.kwNodup hkwarg params 0 [] hv.noArgNames
    (fun _ _ => rfl) hnd]
  rfl

/-- a validated call with every required parameter supplied can only fail through a failing default:
it never raises "missing / surplus / unknown / duplicate" at run time -/
theorem validated_bind_never_missing (c : ECfg S) (l : Live S.V) (params : List Param) (pos : List S.V)
    (kws : List (String × S.V)) (hv : ValidCall params pos.length (kws.map (·.1)))
    (hnd : (params.map (·.name)).Nodup)
    (hreq : ∀ (i : Nat) (p : Param), params[i]? = some p → p.default = none →
      i < pos.length ∨ p.name ∈ kws.map (·.1)) :
    ∀ e, bindArgs c l params (argDict pos kws) 0 [] = .error e →
      ∃ p pe, e = defaultFailed p pe := by
  intro e he
  rw [bind_eq_pyCall c l params pos kws hv hnd, pyCall_of_valid _ _ _ _ hv] at he
  have hreq' : ∀ p ∈ params.drop pos.length, p.default = none → p.name ∈ kws.map (·.1) := fun p hp hd => by
    obtain ⟨i, hi⟩ := List.mem_iff_getElem?.mp hp
    exact (hreq (pos.length + i) p (List.getElem?_drop ▸ hi) hd).resolve_left (Nat.not_lt.mpr (Nat.le_add_right _ i))
  cases hb : pyBindGo (S := S) (fun r d => S.eval (Env.update (evalCtx S c.cx l.vars l.scopes.head?) r) d)
      kws params pos [] with
  | ok r => rw [hb] at he; cases he
  | error err =>
    obtain ⟨p, pe, rfl⟩ := pyBindGo_error _ kws params pos [] hreq' err hb
    rw [hb] at he
    exact ⟨p, pe, (Except.error.inj he).symm⟩

end Bardic
