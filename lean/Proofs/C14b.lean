import Proofs.Lemmas.ParserSpec
import Proofs.C13
/-!
# C14 on the whole text-level parser model: a located diagnostic names a line of the text

`parseStory` answers a malformed text with `Fail.diag cls (some l) what` — the model of
`raise SyntaxError(format_error(.., line_num=l, ..))`, `l` being the 0-based index into the combined text that
`format_error` turns into a file and a 1-based line through the include line map (`Include.display`).

`parseLines_diag_in_text`: for **every** text and every behaviour of CPython's parser, the index `l` of a located
diagnostic is the index of a line of the text: `l < lines.size`.  It is `parseLines_sat` (`Proofs/Lemmas/ParserSpec.lean`)
read for the failures "a located diagnostic names a line below `n`".  No hypothesis about CPython is needed: Python also ends a line at a bare carriage return, so for `~ x \r= 1` `ast.parse`
answers line 2 of a one-line source — the compiler keeps the offset on the statement's own lines (`min`), and so does the model.

`diag_names_true_origin`: composed with `Include.display_origin` — for every include graph, the file and 1-based line
that the header of such a diagnostic shows are those of a line that really exists in a file the author wrote, and that
line reads exactly what the parser was looking at (the combined line `l`).

The last section stands by itself: the lines the parser works on hold no newline character, nor does what the pre-pass and
the statement extractor make of them (`splitNl_noNl`, `sdcGo_spec`, `multiline_spec`, `stmtCode_noNl`).  No theorem above rests on it.
-/
namespace Bardic.Parser

/-- a located diagnostic names an index below `n` -/
structure Rng {α} (n : Nat) (x : PM α) : Prop where
  rng : ∀ c l w, x = .error (.diag c (some l) w) → l < n

/-- the failures `Rng n` admits -/
def InRng (n : Nat) (e : Fail) : Prop := ∀ c l w, e = .diag c (some l) w → l < n

theorem Rng.of_sat {α} {n} {P : α → Prop} {x : PM α} (h : Sat (InRng n) P x) : Rng n x :=
  ⟨fun c l w he => h.err_of he c l w rfl⟩

theorem Rng.internal {α} {n} (m) : Rng n (Except.error (Fail.internal m) : PM α) := .of_sat (P := T) (Sat.err fun _ _ _ => nofun)
theorem Rng.diagNone {α} {n} (c m) : Rng n (Except.error (Fail.diag c none m) : PM α) := .of_sat (P := T) (Sat.err fun _ _ _ => nofun)

theorem inRng_deliberate (n : Nat) : Deliberate (InRng n) n :=
  ⟨fun h _ _ _ _ _ he => by cases he; exact h, fun _ _ _ _ _ => nofun, fun _ _ _ _ => nofun⟩

/-- the raw body lines are no more than the lines after `i` -/
theorem loopCollect_len (lines : Lines) : ∀ (f i depth : Nat) (acc : List Line) (r : List Line × Nat × Bool),
    loopCollect lines f i depth acc = .ok r → r.1.length ≤ acc.length + (lines.size - i) :=
  fun f i depth acc _ h =>
    ((loopCollect_sat (anything_deliberate _) lines (Nat.le_refl _) f i depth acc (.admitted trivial)).ok_of h).1

/-- the four mutually recursive block functions: a located diagnostic names a line of the array they work on -/
theorem blocks_rng : ∀ f : Nat,
    (∀ (lines : Lines) (start i : Nat) (s : CondSt), start < lines.size → Rng lines.size (condLoop lines start f i s)) ∧
    (∀ (lines : Lines) (start : Nat), start < lines.size → Rng lines.size (extractCond lines f start)) ∧
    (∀ (al : Lines) (bs j : Nat) (c : List J) (ch : Option (List J)), Rng al.size (loopBody al bs f j c ch)) ∧
    (∀ (lines : Lines) (start : Nat), start < lines.size → Rng lines.size (extractLoop lines f start)) := by
  intro f
  have hE := inRng_deliberate
  exact ⟨fun lines start i s _ => .of_sat ((blocks_sat (hE _) f).condLoop lines start i s (Nat.le_refl _) (.admitted fun _ _ _ => nofun)),
    fun lines start hs => .of_sat ((blocks_sat (hE _) f).extractCond lines start (Nat.le_refl _) hs (.admitted fun _ _ _ => nofun)),
    fun al bs j c ch => .of_sat ((blocks_sat (hE _) f).loopBody al bs j c ch (Nat.le_refl _) (.admitted fun _ _ _ => nofun)),
    fun lines start hs => .of_sat ((blocks_sat (hE _) f).extractLoop lines start (Nat.le_refl _) hs (.admitted fun _ _ _ => nofun))⟩

theorem coreLoop_rng (O : PyOracle) (lines : Lines) :
    ∀ (f i : Nat) (s : PSt), Rng lines.size (coreLoop O lines f i s) :=
  fun f i s => .of_sat (coreLoop_sat (inRng_deliberate _) O lines (Nat.le_refl _) f i s (.admitted fun _ _ _ => nofun))

/-- **C14 on the whole parser model**: a located diagnostic names a line of the text that was parsed -/
theorem parseLines_diag_in_text (O : PyOracle) (ls : List Line) :
    Rng ls.length (parseLines O ls) :=
  .of_sat (parseLines_sat O ls (inRng_deliberate _))

theorem parseStory_diag_in_text (O : PyOracle) (src : Line) :
    Rng (splitNl src).length (parseStory O src) :=
  parseLines_diag_in_text O _

/-- for the compiled JSON as well -/
theorem parseText_diag_in_text (O : PyOracle) (src : Line) (c : DiagCls) (l : Nat) (w : String)
    (h : parseText O src = .error (.diag c (some l) w)) : l < (splitNl src).length :=
  (parseStory_diag_in_text O src).rng c l w (parseText_error h)

/-- **C14, end to end on the models**: whatever the include graph, when the parser rejects the combined text with a
located diagnostic, the file and the 1-based line that the diagnostic's header shows (`Include.display` through the line
map) are those of a line that exists in a file the author wrote, and that line reads exactly the combined line the
parser was looking at. -/
theorem diag_names_true_origin (O : PyOracle) (fs : Include.FS) (root fn : Include.Path)
    (ls : List String) (map : List Include.Loc) (h : Include.resolveRoot fs root = .ok (ls, map))
    (c : DiagCls) (k : Nat) (w : String)
    (hd : parseLines O (ls.map String.toList) = .error (.diag c (some k) w)) :
    ∃ text line, ls[k]? = some line ∧ fs.lookup (Include.display map fn k).1 = some text ∧
      (Include.linesOf text)[(Include.display map fn k).2 - 1]? = some line ∧ 1 ≤ (Include.display map fn k).2 := by
  have hk := (parseLines_diag_in_text O (ls.map String.toList)).rng c k w hd
  simp only [List.length_map] at hk
  have hget : ls[k]? = some ls[k] := List.getElem?_eq_getElem hk
  obtain ⟨text, h1, h2, h3⟩ := Include.display_origin fs root fn ls map h k ls[k] hget
  exact ⟨text, ls[k], hget, h1, h2, h3⟩


/-! ## lines hold no newline (they come from `source.split("\n")`), nor does anything cut out of them -/

def NoNl (l : Line) : Prop := ∀ c ∈ l, c ≠ '\n'

theorem NoNl.sublist {l l' : Line} (h : NoNl l) (hs : l'.Sublist l) : NoNl l' := fun c hc => h c (hs.mem hc)
theorem NoNl.drop {l : Line} (h : NoNl l) (k : Nat) : NoNl (l.drop k) := h.sublist (List.drop_sublist k l)

theorem stmtCode_noNl {l : Line} (h : NoNl l) : NoNl (stmtCode l) :=
  h.sublist ((rstripL_sublist _).trans ((strip_sublist _).trans (stripL_sublist l)))

theorem NoNl.reverse {l : Line} (h : NoNl l) : NoNl l.reverse := fun c hc => h c (List.mem_reverse.mp hc)

theorem splitNlGo_noNl (s cur : Line) (acc : List Line) (hc : NoNl cur) (ha : ∀ l ∈ acc, NoNl l) :
    ∀ l ∈ splitNlGo s cur acc, NoNl l := by
  fun_induction splitNlGo s cur acc with
  | case1 cur acc => exact fun l hl => List.forall_mem_cons.mpr ⟨hc.reverse, ha⟩ l (List.mem_reverse.mp hl)
  | case2 c r cur acc _ ih => exact ih (List.forall_mem_nil _) (List.forall_mem_cons.mpr ⟨hc.reverse, ha⟩)
  | case3 c r cur acc hne ih => exact ih (List.forall_mem_cons.mpr ⟨mt beq_iff_eq.mpr hne, hc⟩) ha

theorem splitNl_noNl (s : Line) : ∀ l ∈ splitNl s, NoNl l :=
  splitNlGo_noNl s [] [] (List.forall_mem_nil _) (List.forall_mem_nil _)

theorem sdcGo_spec : ∀ (ls : List Line) (closer : Option String) (acc : List Line),
    (∀ l ∈ ls, NoNl l) → (∀ l ∈ acc, NoNl l) →
    (∀ l ∈ stripDirectiveCommentsGo ls closer acc, NoNl l) ∧
    (stripDirectiveCommentsGo ls closer acc).length = acc.length + ls.length
  | [], closer, acc, _, ha => by
    unfold stripDirectiveCommentsGo
    exact ⟨fun l hl => ha l (List.mem_reverse.mp hl), sdcGo_len [] closer acc⟩
  | line :: rest, closer, acc, hl, ha => by
    refine ⟨?_, sdcGo_len _ closer acc⟩
    obtain ⟨hline, hrest⟩ := List.forall_mem_cons.mp hl
    have hl' : NoNl (sdcStep closer line).1 := hline.sublist (sdcStep_sublist closer line)
    rw [sdcGo_cons]
    exact (sdcGo_spec rest _ _ hrest (List.forall_mem_cons.mpr ⟨hl', ha⟩)).1

/-- the lines a multi-line statement is made of: the statement's own text and lines of the array -/
theorem multiline_spec (lines : List Line) (start : Nat) (init : Line) (ls : List Line) (n : Nat)
    (h : multiline lines start init = .ok (ls, n)) (hl : ∀ l ∈ lines, NoNl l) (hi : NoNl init) :
    (∀ l ∈ ls, NoNl l) ∧ ls.length = n := by
  obtain ⟨more, hr, hm⟩ := (multiline_tot lines start init).ok_of h
  cases hr
  exact ⟨List.forall_mem_cons.mpr ⟨hi, fun l hl' => hl l (List.mem_of_mem_drop (hm.subset hl'))⟩, rfl⟩

end Bardic.Parser
