import Bardic.Parser.Strip
/-!
# C17 — comments and indentation are presentation only (component theorems)

The comment scanner `strip` passes over any prefix without `/` and `\\` (`strip_noslash_append`: the property theorems
about trailing comments, escapes and `//=` are its instances); what the stripping functions return is a sublist of what
they were given; blanks in front of or behind a text do not change what `lstripL` / `rstripL` / `dedent` make of it.
-/
namespace Bardic.Parser

/-- no slash and no backslash: nothing the comment scanner reacts to -/
def NoSlash (l : List Char) : Prop := ∀ c ∈ l, c ≠ '/' ∧ c ≠ '\\'

/-- the catch-all equation of `strip` -/
theorem strip_cons_plain (x : Char) (r : List Char) (h1 : x ≠ '/') (h2 : x ≠ '\\') :
    strip (x :: r) = (x :: (strip r).1, (strip r).2) :=
  strip.eq_4 x r (fun _ h _ => h2 h) (fun _ h _ => h1 h) (fun _ h _ => h1 h)

/-- the equation of `strip` for `//` not followed by `=`: the comment starts here -/
theorem strip_slashes (c : List Char) (hc : c.head? ≠ some '=') :
    strip ('/' :: '/' :: c) = ([], '/' :: '/' :: c) :=
  strip.eq_3 c fun _ h => hc (h ▸ rfl)

theorem strip_noslash_append : ∀ (l t : List Char), NoSlash l → strip (l ++ t) = (l ++ (strip t).1, (strip t).2)
  | [], _, _ => rfl
  | x :: r, t, h => by
    obtain ⟨hx, hr⟩ := List.forall_mem_cons.mp h
    rw [List.cons_append, strip_cons_plain x _ hx.1 hx.2, strip_noslash_append r t hr]
    rfl

/-- a line without `/` and `\` is returned unchanged, with no comment -/
theorem strip_noslash : ∀ (l : List Char), NoSlash l → strip l = (l, []) := fun l h => by
  have : strip (l ++ []) = (l ++ [], []) := strip_noslash_append l [] h
  rwa [List.append_nil] at this

/-- **a trailing `// comment` changes nothing but trailing blanks**: appending ` // c` to a line
(whose text does not start with `=`, which would read as the operator `//=`) yields the line plus
one blank as content and the comment as comment, whatever the comment says -/
theorem strip_comment_suffix : ∀ (l c : List Char), NoSlash l → c.head? ≠ some '=' →
    strip (l ++ ' ' :: '/' :: '/' :: c) = (l ++ [' '], '/' :: '/' :: c) := fun l c hl hc => by
  rw [strip_noslash_append l _ hl, strip_cons_plain ' ' _ (by decide) (by decide), strip_slashes c hc]

/-- an escaped `\//` is a literal `//` and does not start a comment -/
theorem strip_keeps_escaped (l r : List Char) (hl : NoSlash l) :
    strip (l ++ '\\' :: '/' :: '/' :: r) = (l ++ '/' :: '/' :: (strip r).1, (strip r).2) := by
  rw [strip_noslash_append l _ hl]
  rfl

/-- `//=` (floor-division assignment) is left intact -/
theorem strip_keeps_floordiv_assign (l r : List Char) (hl : NoSlash l) :
    strip (l ++ '/' :: '/' :: '=' :: r) = (l ++ '/' :: '/' :: '=' :: (strip r).1, (strip r).2) := by
  rw [strip_noslash_append l _ hl]
  rfl

/-- the side condition is real: a comment whose text starts with `=` is read as `//=` -/
example : (strip "x = 1 //= 2".toList).2 = [] := by decide +kernel
example : strip "a \\// b //= c // d".toList = ("a // b //= c ".toList, "// d".toList) := by decide +kernel

/-! ## what stripping returns is a sublist of what it was given -/

/-- `lstripL` is the library's `dropWhile`: the facts about left-stripping below are the library's -/
theorem lstripL_eq_dropWhile : ∀ l : List Char, lstripL l = l.dropWhile isPyWs
  | [] => rfl
  | c :: r => by rw [lstripL, List.dropWhile_cons, lstripL_eq_dropWhile r]

theorem lstripL_sublist (l : List Char) : (lstripL l).Sublist l := lstripL_eq_dropWhile l ▸ List.dropWhile_sublist _

theorem rstripL_sublist (l : List Char) : (rstripL l).Sublist l := by
  have := (lstripL_sublist l.reverse).reverse
  rwa [List.reverse_reverse] at this

theorem stripL_sublist (l : List Char) : (stripL l).Sublist l := (rstripL_sublist _).trans (lstripL_sublist l)

theorem strip_sublist (l : List Char) : (strip l).1.Sublist l := by
  fun_induction strip l
  case case1 ih => exact ((ih.cons_cons _).cons_cons _).cons _
  case case2 ih => exact ((ih.cons_cons _).cons_cons _).cons_cons _
  case case3 => exact List.nil_sublist _
  case case4 ih => exact ih.cons_cons _
  case case5 => exact .slnil

/-! ## blanks in front of and behind a text -/

theorem isBlank_ws_append (pad x : List Char) (hp : ∀ c ∈ pad, isPyWs c = true) : isBlank (pad ++ x) = isBlank x := by
  rw [isBlank, List.all_append, List.all_eq_true.mpr hp, Bool.true_and, isBlank]

theorem leadingWs_ws_append : ∀ (pad x : List Char), (∀ c ∈ pad, isPyWs c = true) →
    leadingWs (pad ++ x) = leadingWs x + pad.length
  | [], _, _ => rfl
  | c :: pad, x, hp => by
    obtain ⟨hc, hp⟩ := List.forall_mem_cons.mp hp
    rw [List.cons_append, leadingWs, if_pos hc, leadingWs_ws_append pad x hp]
    rfl

theorem lstripL_ws_append (pad x : List Char) (hp : ∀ c ∈ pad, isPyWs c = true) : lstripL (pad ++ x) = lstripL x := by
  rw [lstripL_eq_dropWhile, List.dropWhile_append_of_pos hp, lstripL_eq_dropWhile]

/-- left-stripping does not reach into what follows a part with a visible character -/
theorem lstripL_append_nonblank (x y : List Char) (h : lstripL x ≠ []) : lstripL (x ++ y) = lstripL x ++ y := by
  rw [lstripL_eq_dropWhile] at h
  rw [lstripL_eq_dropWhile, lstripL_eq_dropWhile, List.dropWhile_append, if_neg (mt List.isEmpty_iff.mp h)]

theorem rstripL_ws_append (x pad : List Char) (hp : ∀ c ∈ pad, isPyWs c = true) : rstripL (x ++ pad) = rstripL x := by
  rw [rstripL, List.reverse_append, lstripL_ws_append _ _ fun c hc => hp c (List.mem_reverse.mp hc), rstripL]

/-- right-stripping does not reach into what precedes a part with a visible character -/
theorem rstripL_append_nonblank (x y : List Char) (h : rstripL y ≠ []) : rstripL (x ++ y) = x ++ rstripL y := by
  unfold rstripL at h ⊢
  rw [List.reverse_append, lstripL_append_nonblank _ _ (mt (congrArg List.reverse) h), List.reverse_append,
    List.reverse_reverse]

/-! ## uniform indentation -/

/-- indent a line by `k` more blanks — every line, blank ones too (editors do that) -/
def indentBy (k : Nat) (l : List Char) : List Char := List.replicate k ' ' ++ l

theorem ws_replicate (k : Nat) : ∀ c ∈ List.replicate k ' ', isPyWs c = true :=
  fun _ hc => List.eq_of_mem_replicate hc ▸ rfl

theorem isBlank_indentBy (k : Nat) (l : List Char) : isBlank (indentBy k l) = isBlank l :=
  isBlank_ws_append _ l (ws_replicate k)

theorem leadingWs_indentBy (k : Nat) (l : List Char) : leadingWs (indentBy k l) = leadingWs l + k := by
  rw [indentBy, leadingWs_ws_append _ l (ws_replicate k), List.length_replicate]

theorem isCommentLine_indentBy (k : Nat) (l : List Char) : isCommentLine (indentBy k l) = isCommentLine l := by
  rw [isCommentLine, indentBy, lstripL_ws_append _ l (ws_replicate k), isCommentLine]

theorem baseIndentP_indent (k : Nat) (sc : Bool) : ∀ (ls : List (List Char)),
    baseIndentP sc (ls.map (indentBy k)) = (baseIndentP sc ls).map (· + k)
  | [] => rfl
  | l :: rest => by
    simp only [List.map_cons, baseIndentP, isBlank_indentBy, isCommentLine_indentBy, leadingWs_indentBy,
      baseIndentP_indent k sc rest]
    exact Eq.symm (apply_ite _ ..)

theorem baseIndent_indent (k : Nat) (ls : List (List Char)) :
    baseIndent (ls.map (indentBy k)) = (baseIndent ls).map (· + k) := by
  unfold baseIndent
  rw [baseIndentP_indent, baseIndentP_indent]
  cases baseIndentP true ls <;> rfl

theorem dedentLine_indent (k b : Nat) (l : List Char) (hok : isBlank l = true ∨ leadingWs l ≥ b) :
    dedentLine (b + k) (indentBy k l) = dedentLine b l := by
  unfold dedentLine
  rw [isBlank_indentBy, leadingWs_indentBy]
  refine ite_congr rfl (fun _ => rfl) fun hb => ?_
  have h : leadingWs l ≥ b := hok.resolve_left hb
  rw [if_pos h, if_pos (Nat.add_le_add_right h k), Nat.add_comm b k, ← List.drop_drop, indentBy,
    List.drop_left' List.length_replicate]

/-- **uniform indentation of a block body is presentation only**: shifting every line (blank lines included) of a
well-indented body (no line indented less than the first) by the same `k` blanks does not change what
`detect_and_strip_indentation` returns -/
theorem dedent_uniform (k : Nat) (ls : List (List Char))
    (hwell : ∀ b, baseIndent ls = some b → ∀ l ∈ ls, isBlank l = true ∨ leadingWs l ≥ b) :
    dedent (ls.map (indentBy k)) = dedent ls := by
  unfold dedent
  rw [baseIndent_indent]
  cases hb : baseIndent ls with
  | none => exact List.map_map
  | some b => exact List.map_map.trans (List.map_congr_left fun l hl =>
      Function.comp_apply.trans (dedentLine_indent k b l (hwell b hb l hl)))

/-- **a `#` comment line above a block body is presentation only**: it does not set the indentation base, so the
lines below it are dedented exactly as without it (wherever the comment itself is indented) -/
theorem dedent_comment_head (c : List Char) (ls : List (List Char)) (hc : isCommentLine c = true)
    (h : (baseIndentP true ls).isSome) : (dedent (c :: ls)).tail = dedent ls := by
  obtain ⟨b, hb⟩ := Option.isSome_iff_exists.mp h
  have h1 : baseIndent (c :: ls) = some b := by
    simp [baseIndent, baseIndentP, hc, hb]
  have h2 : baseIndent ls = some b := by
    simp [baseIndent, hb]
  simp [dedent, h1, h2]

example : dedent ["# note".toList, "    a".toList, "      b".toList] = ["# note".toList, "a".toList, "  b".toList] := by decide +kernel

example : dedent ["    a".toList, "      b".toList, "    ".toList, "    c".toList] = ["a".toList, "  b".toList, "".toList, "c".toList] := by decide +kernel

end Bardic.Parser
