import Proofs.Lemmas.Seq
/-!
# C15 — author-code failures are contained or surface cleanly, undoably

All statements are for an arbitrary `Sem`: `eval`/`exec` may fail anywhere, so every fault-injection
scenario is an instance.
-/
namespace Bardic
variable {S : Sem}

/-! ## display expressions: an inline marker, nothing else changes -/

/-- a display expression never raises and never changes the state -/
theorem expr_contained (cfg : RCfg S) (code : String) (rs : RS S.V) :
    ∃ s, renderTok S cfg (.expr code) rs = (rs, .ok { text := s }) :=
  ⟨renderExpr S (rctx S cfg rs) code, by simp [renderTok]⟩

/-- a failing display expression (without format spec) becomes an inline `{ERROR: …}` marker -/
theorem expr_fault_marker (cfg : RCfg S) (code : String) (rs : RS S.V) (e : PyErr)
    (hsplit : splitFmt code = none) (hfail : S.eval (rctx S cfg rs) code = .error e) :
    ∃ rest, renderTok S cfg (.expr code) rs = (rs, .ok { text := "{ERROR: " ++ rest }) :=
  -- `errText` begins with the marker by definition
  ⟨_, by simp only [renderTok, renderExpr, hsplit, hfail]; rfl⟩

/-! ## conditions: a failing one hides the choice / skips the branch -/

theorem branch_cond_fault_skips (cfg : RCfg S) (cnd : String) (body : List Tok) (chs : List Choice)
    (bs : List Branch) (rs : RS S.V) (e : PyErr) (hfail : S.eval (rctx S cfg rs) cnd = .error e) :
    renderBranches S cfg (.mk cnd body chs :: bs) rs = renderBranches S cfg bs rs := by
  simp [renderBranches, hfail]

/-- a sticky choice whose condition fails to evaluate is hidden, and nothing has happened (for a one-time choice the
text is rendered first, which may move the state: the same answer, from the state reached) -/
theorem choice_cond_fault_hides (cfg : RCfg S) (cur : Option String) (used : List String)
    (text : List Tok) (tgt args cnd : String) (sec : Nat) (tags : List String) (block : List Tok)
    (rs : RS S.V) (e : PyErr) (hne : cnd ≠ "") (hfail : S.eval (rctx S cfg rs) cnd = .error e) :
    isAvail cfg cur used (.mk text tgt args (some cnd) true sec tags block) none rs = (rs, .ok false) := by
  have : (cnd == "") = false := by simpa using hne
  simp [isAvail, Choice.sticky, Choice.cond, this, hfail]

/-! ## statements and blocks: never silently discarded -/

theorem stmt_fault_raises (cfg : RCfg S) (code : String) (rs : RS S.V) (e : PyErr)
    (hfail : S.exec (rctx S cfg rs) code = .error e) :
    ∃ m, (execStmt S cfg code rs).2 = .error ⟨.runtimeError, m⟩ ∧ (execStmt S cfg code rs).1.vars = rs.vars := by
  simp only [execStmt, hfail]
  exact ⟨"Python statement failed: " ++ code ++ "\n  Error: " ++ e.msg, rfl, trivial⟩

theorem block_fault_raises (cfg : RCfg S) (code : String) (rs : RS S.V) (e : PyErr)
    (hfail : S.exec (Env.update cfg.cx rs.vars) code = .error e) :
    ∃ m, (execBlock S cfg code rs).2 = .error ⟨.runtimeError, m⟩ ∧ (execBlock S cfg code rs).1.vars = rs.vars := by
  simp only [execBlock, hfail]
  exact ⟨"Error executing Python block: " ++ e.cls ++ ": " ++ e.msg, rfl, trivial⟩

/-- a failing statement reached in a token list makes the whole render fail with that error: the
tokens after it are not rendered and no marker hides it -/
theorem render_stmt_fault_propagates (cfg : RCfg S) (pre post : List Tok) (code : String)
    (rs rs1 : RS S.V) (r1 : ROut S.V) (e : PyErr) (hm : ∀ x ∈ pre, x.isJoinMarker = false)
    (hpre : renderToks S cfg pre rs = (rs1, .ok r1)) (hnj : r1.jump = none)
    (hfail : S.exec (rctx S cfg rs1) code = .error e) :
    ∃ m, (renderToks S cfg (pre ++ Tok.stmt code :: post) rs).2 = .error ⟨.runtimeError, m⟩ := by
  rw [renderToks_append cfg _ pre rs hm, hpre, seqR_ok_nojump _ _ _ hnj, renderToks_cons_of_noJoin cfg rfl,
    renderTok_stmt]
  simp only [execStmt, hfail]
  exact ⟨_, rfl⟩

/-- a failing command at the top level of a passage makes `_execute_passage` raise -/
theorem execCommands_fault (cfg : RCfg S) (code : String) (rest : List Tok) (rs : RS S.V) (e : PyErr)
    (hfail : S.exec (rctx S cfg rs) code = .error e) :
    ∃ m, (execCommands cfg (Tok.stmt code :: rest) rs).2 = .error ⟨.runtimeError, m⟩ := by
  unfold execCommands execStmt; exact ⟨_, by rw [hfail]⟩

/-! ## every error a render can produce is a `RuntimeError` or a `ValueError` (main engine) -/

theorem execStmt_errKind (cfg : RCfg S) (code : String) (rs : RS S.V) (e : Exc)
    (h : (execStmt S cfg code rs).2 = .error e) : e.kind = .runtimeError := by
  unfold execStmt at h
  split at h <;> cases h
  rfl

theorem execBlock_errKind (cfg : RCfg S) (code : String) (rs : RS S.V) (e : Exc)
    (h : (execBlock S cfg code rs).2 = .error e) : e.kind = .runtimeError := by
  unfold execBlock at h
  split at h <;> cases h
  rfl

def OkKind (e : Exc) : Prop := e.kind = .runtimeError ∨ e.kind = .valueError

def ErrOk {α} (x : RRes S α) : Prop := ∀ e, x.2 = .error e → OkKind e

theorem ErrOk.ok {α} (rs : RS S.V) (a : α) : ErrOk (S := S) (rs, .ok a) := fun _ h => nomatch h

theorem ErrOk.bind {α β} {x : RRes S α} {k : RS S.V → α → RRes S β}
    (hx : ErrOk x) (hk : ∀ rs a, ErrOk (k rs a)) : ErrOk (x.bind k) := by
  rcases x with ⟨rs, e | a⟩
  · intro e' h; cases h; exact hx e rfl
  · exact hk rs a

theorem ErrOk.seqR {x : RRes S (ROut S.V)} {k : RS S.V → RRes S (ROut S.V)}
    (hx : ErrOk x) (hk : ∀ rs, ErrOk (k rs)) : ErrOk (seqR x k) := by
  rw [seqR_eq_bind]
  refine hx.bind fun rs1 r1 => ?_
  split
  · exact .ok _ _
  · exact (hk rs1).bind fun _ _ => .ok _ _

theorem ErrOk.withVars {α} (f : Env S.V → Env S.V) {x : RRes S α} (hx : ErrOk x) : ErrOk (withVars f x) := hx

theorem loopItems_errOk (lv : String)
    (body : RS S.V → RRes S (ROut S.V)) (chs : RS S.V → RRes S (List (Dir S.V)))
    (hb : ∀ rs, ErrOk (body rs)) (hc : ∀ rs, ErrOk (chs rs)) :
    ∀ (items : List S.V) (rs : RS S.V), ErrOk (loopItems S lv body chs items rs) := by
  intro items
  induction items with
  | nil => exact fun rs => .ok rs _
  | cons item items ih =>
    intro rs
    rw [loopItems_cons]
    refine ErrOk.seqR ?_ ih
    exact .withVars _ (ErrOk.bind (hb _) fun rs2 _ => (hc rs2).bind fun _ _ => .ok _ _)

theorem loopFail_errOk (cfg : RCfg S) (hv : cfg.variant = .main) (rs : RS S.V) (msg : String) :
    ErrOk (loopFail S cfg rs msg) := by
  intro e h
  simp only [loopFail, hv, Except.error.injEq] at h
  subst h; exact Or.inr rfl

theorem loopOver_errOk (cfg : RCfg S) (hv : cfg.variant = .main) (lv : String)
    (body : RS S.V → RRes S (ROut S.V)) (chs : RS S.V → RRes S (List (Dir S.V)))
    (coll : Except PyErr (List S.V)) (rs : RS S.V) : ErrOk (loopOver cfg lv body chs coll rs) := by
  rcases coll with e | items
  · exact loopFail_errOk cfg hv _ _
  · dsimp only [loopOver]
    rcases loopItems S lv body chs items rs with ⟨rs', e | r⟩
    · exact loopFail_errOk cfg hv _ _
    · exact .ok _ _

mutual
theorem renderTok_errOk (cfg : RCfg S) (hv : cfg.variant = .main) :
    ∀ (t : Tok) (rs : RS S.V), ErrOk (renderTok S cfg t rs) := by
  intro t rs
  cases t with
  | inlineCond c t f =>
      rw [renderTok_inlineCond]
      split
      · exact .ok _ _
      · split <;> exact .ok _ _
  | stmt code =>
      rw [renderTok_stmt]
      exact ErrOk.bind (fun e h => Or.inl (execStmt_errKind cfg code rs e h)) fun _ _ => .ok _ _
  | pyblock code =>
      rw [renderTok_pyblock]
      exact ErrOk.bind (fun e h => Or.inl (execBlock_errKind cfg code rs e h)) fun _ _ => .ok _ _
  | cond bs => exact renderBranches_errOk cfg hv bs rs
  | loop lv coll body choices =>
      rw [renderTok_loop]
      split
      · exact .ok _ _
      · exact loopOver_errOk cfg hv _ _ _ _ _
  | _ => exact .ok _ _

theorem renderToks_errOk (cfg : RCfg S) (hv : cfg.variant = .main) :
    ∀ (ts : List Tok) (rs : RS S.V), ErrOk (renderToks S cfg ts rs)
  | [], rs => .ok _ _
  | t :: ts, rs => by
      rw [renderToks_cons]
      split
      · exact .ok _ _
      · exact (renderTok_errOk cfg hv t rs).seqR (renderToks_errOk cfg hv ts)

theorem renderBranches_errOk (cfg : RCfg S) (hv : cfg.variant = .main) :
    ∀ (bs : List Branch) (rs : RS S.V), ErrOk (renderBranches S cfg bs rs)
  | [], rs => .ok _ _
  | .mk c body chs :: bs, rs => by
      rw [renderBranches_cons]
      split
      · exact (renderToks_errOk cfg hv body rs).bind fun _ _ => .ok _ _
      · exact renderBranches_errOk cfg hv bs rs
end

end Bardic
