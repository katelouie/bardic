import Bardic.Engine.Nav
import Proofs.C11
/-!
# C12 / C02 / C07: the compiler and the engine split a call the same way

The compiler splits the text after `->` into a passage name and an argument text (`extract_target_and_args`, model
`extractTargetAndArgs`); `choose()` puts the two together again as `name(args)` and `goto()` splits that spec on its own
(`parseSpec`).  Both scans count parentheses and skip string literals.  `engine_split_agrees_with_compiler`: for **every**
text in which the compiler finds the closing parenthesis, the engine's split of the re-assembled spec gives back exactly
the name and the argument text the compiler stored - whatever the arguments hold (nested calls, strings with parentheses
and escaped quotes, garbage behind the call).  The statement needs BOTH scans to be string-aware: with
`Say("fine :)")` a scan that counts the parenthesis inside the string stops there.

`matchParenQ_spec` (what the engine's scan answers is a prefix followed by `)`, and only that prefix matters) and
`findCloseQ_eq` (the compiler's position-and-integer-depth scan answers the position plus the length of what the engine's
prefix-and-natural-depth scan returns; `findCloseQ_matchParenQ`, they find the same parenthesis, is its corollary) are proved
by functional induction over the engine's scan.
-/
namespace Bardic
open Bardic.Parser

theorem matchParenQ_spec (d : Nat) (q : Option Char) (cs : List Char) : ∀ (pre : List Char),
    matchParenQ d q cs = some pre →
    (∃ rest, cs = pre ++ ')' :: rest) ∧ ∀ rest', matchParenQ d q (pre ++ ')' :: rest') = some pre := by
  fun_induction matchParenQ d q cs with
  | case1 | case2 => nofun
  | case8 d c cs _ _ hc hd =>
    -- the `)` at depth 1, where the scan stops
    intro pre h
    cases h
    cases eq_of_beq hc
    refine ⟨⟨cs, rfl⟩, fun rest' => ?_⟩
    rw [List.nil_append, matchParenQ.eq_def]
    simp only [*, Bool.false_eq_true, if_true, if_false]
  | case3 | case4 | case5 | case6 | case7 | case9 | case10 =>
    -- any other character (two after a backslash) is kept and the scan goes on: one unfolding, then the hypothesis
    rename_i ih
    intro pre h
    obtain ⟨a, ha, rfl⟩ := Option.map_eq_some_iff.mp h
    obtain ⟨⟨rest, rfl⟩, hall⟩ := ih a ha
    refine ⟨⟨rest, rfl⟩, fun rest' => ?_⟩
    rw [matchParenQ.eq_def]
    simp only [List.cons_append, *, hall rest', Bool.false_eq_true, if_true, if_false, Option.map_some]

theorem map_length_cons (c : Char) (pos : Nat) (o : Option (List Char)) :
    (o.map (c :: ·)).map (pos + ·.length) = o.map (pos + 1 + ·.length) := by
  cases o with
  | none => rfl
  | some l => exact congrArg some (Nat.add_right_comm pos l.length 1)

/-- the compiler's scan (positions, an integer depth) computes the length of what the engine's scan (prefixes, a natural
depth) returns -/
theorem findCloseQ_eq (d : Nat) (q : Option Char) (cs : List Char) : ∀ (pos : Nat), 1 ≤ d →
    findCloseQ cs pos (d : Int) q = (matchParenQ d q cs).map (pos + ·.length) := by
  fun_induction matchParenQ d q cs with
  | case1 => intros; rw [findCloseQ]; rfl
  | case2 d q c hc => intros; rw [findCloseQ]; simp only [hc, if_true]; rfl
  | case3 d q c hc c' cs' ih =>
    intro pos hd
    rw [findCloseQ, if_pos hc, ih (pos + 2) hd]
    cases matchParenQ d (some q) cs' with
    | none => rfl
    | some l => exact congrArg some (Nat.add_right_comm pos 2 l.length)
  | case4 | case5 | case6 | case10 =>
    intro pos hd
    rw [findCloseQ.eq_def]
    simp only [*, Bool.false_eq_true, if_true, if_false, map_length_cons]
  | case7 d c cs h1 h2 ih =>
    intro pos hd
    have ih := ih (pos + 1) (Nat.le_add_left 1 d)
    rw [Int.natCast_succ] at ih
    rw [findCloseQ.eq_def]
    simp only [*, Bool.false_eq_true, if_true, if_false, map_length_cons]
  | case8 d c cs h1 h2 h3 hd1 =>
    intro pos hd
    cases eq_of_beq hd1
    rw [findCloseQ.eq_def]
    simp only [*, Bool.false_eq_true, if_true, if_false]
    rfl
  | case9 d c cs h1 h2 h3 hd1 ih =>
    intro pos hd
    have hd1 : d ≠ 1 := mt beq_iff_eq.mpr hd1
    have ih := ih (pos + 1) (Nat.le_sub_one_of_lt (Nat.lt_of_le_of_ne hd hd1.symm))
    rw [Int.natCast_sub hd, Int.natCast_one] at ih
    have : ((d : Int) - 1 == 0) = false := beq_eq_false_iff_ne.mpr (mt (Int.natCast_inj.mp ∘ Int.eq_of_sub_eq_zero) hd1)
    rw [findCloseQ.eq_def]
    simp only [*, Bool.false_eq_true, if_true, if_false, map_length_cons]

/-- the compiler's scan (positions, an integer depth) and the engine's scan (prefixes, a natural depth) find the same
closing parenthesis -/
theorem findCloseQ_matchParenQ (d : Nat) (q : Option Char) (cs : List Char) : ∀ (pos pe : Nat), 1 ≤ d →
    findCloseQ cs pos (d : Int) q = some pe → ∃ pre, matchParenQ d q cs = some pre ∧ pe = pos + pre.length := by
  intro pos pe hd h
  rw [findCloseQ_eq d q cs pos hd] at h
  obtain ⟨pre, hp, rfl⟩ := Option.map_eq_some_iff.mp h
  exact ⟨pre, hp, rfl⟩

/-- **the compiler and the engine split a call the same way**: when `extract_target_and_args` finds the closing
parenthesis of `t` (at `pe`, the opening one at `ps`) and stores `t[:ps]` and `t[ps+1:pe]`, the engine's `goto` splits the
spec `choose()` re-assembles from them — `name(args)` — into exactly that name and that argument text -/
theorem engine_split_agrees_with_compiler (t : List Char) (ps pe : Nat)
    (hps : pyIndexOf '(' t = .ok ps) (hpe : findCloseQ (t.drop ps) ps 0 none = some pe) :
    parseSpec (String.ofList (t.take ps ++ '(' :: ((t.take pe).drop (ps + 1) ++ [')']))) =
      .ok (String.ofList (t.take ps), String.ofList ((t.take pe).drop (ps + 1))) := by
  -- `t = name ( pre ) rest`, where `pre` is what both scans find
  obtain ⟨name, rest₀, rfl, rfl, hno⟩ := (pyIndexOf_spec '(' t).ok_of hps
  rw [List.drop_left] at hpe
  -- the compiler's scan starts on the `(` itself: that first step (depth 0 to 1) is by evaluation
  obtain ⟨pre, hm, rfl⟩ := findCloseQ_matchParenQ 1 none rest₀ (name.length + 1) _ (Nat.le_refl 1) hpe
  obtain ⟨⟨rest, rfl⟩, hall⟩ := matchParenQ_spec 1 none _ pre hm
  have hargs : ((name ++ '(' :: (pre ++ ')' :: rest)).take (name.length + 1 + pre.length)).drop (name.length + 1)
      = pre := by
    have hlen : (name ++ ['(']).length = name.length + 1 := List.length_append
    rw [List.append_cons, ← List.append_assoc, List.take_left' (by rw [List.length_append, hlen]),
      List.drop_left' hlen]
  rw [List.take_left, hargs]
  unfold parseSpec
  simp only [String.toList_ofList, splitFirstL_append '(' _ _ hno, matchParen, hall []]

/-- the same in terms of what `extract_target_and_args` returns: when it did split the text (the name it returns is not the
whole text), the engine splits `name(args)` back into the two -/
theorem engine_split_of_extract (t name args : List Char) (h : extractTargetAndArgs t = .ok (name, args))
    (hsplit : name ≠ t) :
    parseSpec (String.ofList (name ++ '(' :: (args ++ [')']))) = .ok (String.ofList name, String.ofList args) := by
  obtain e | ⟨ps, pe, hps, hpe, e⟩ := (extractTargetAndArgs_tot t).ok_of h
  · cases e; exact absurd rfl hsplit
  · cases e; exact engine_split_agrees_with_compiler t ps pe hps hpe

/-- non-vacuity: a call whose string argument holds a parenthesis and an escaped quote, nested calls, text behind it -/
example : (match extractTargetAndArgs "Say(\"fine :)\", f(1, '\\')('), k=(2)) ^tag".toList with
    | .ok (n, a) => n == "Say".toList && a == "\"fine :)\", f(1, '\\')('), k=(2)".toList
    | .error _ => false) = true := by decide +kernel

end Bardic
