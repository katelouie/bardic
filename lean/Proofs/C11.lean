import Bardic.Parser.Components
import Bardic.Parser.Choice
import Proofs.Lemmas.Sat
/-!
# C11 — no internal error is reachable in the modelled parser components; scanners make progress

Every partial Python operation of a component (`s.index(c)`, `s[0]`, `stack[-1]`) stands behind a guard that makes it
total; the theorems follow the function with `Sat.ite` / `Sat.seq` and discharge the operation from its guard.
-/
namespace Bardic.Parser

/-- `s.index(c)`: the position of the first `c`, where the text splits; it raises only when there is none -/
theorem pyIndexOf_spec (c : Char) (s : List Char) : Sat (fun _ => c ∉ s)
    (fun ps => ∃ name rest, s = name ++ c :: rest ∧ name.length = ps ∧ ∀ x ∈ name, (x == c) = false) (pyIndexOf c s) := by
  fun_induction pyIndexOf c s with
  | case1 => exact .err List.not_mem_nil
  | case2 d r hd => exact .ok ⟨[], r, by rw [eq_of_beq hd]; rfl, rfl, List.forall_mem_nil _⟩
  | case3 d r hd ih =>
    refine (ih.mono (fun _ he h => ?_) fun _ hp => hp).map fun ps h => ?_
    · exact (List.mem_cons.mp h).elim (fun e => hd (beq_iff_eq.mpr e.symm)) he
    · obtain ⟨name, rest, hs, hl, hno⟩ := h
      exact ⟨d :: name, rest, congrArg (d :: ·) hs, congrArg (· + 1) hl,
        List.forall_mem_cons.mpr ⟨Bool.eq_false_iff.mpr hd, hno⟩⟩

/-- `s.index(c)` behind the guard `c in s` -/
theorem pyIndexOf_tot (c : Char) (s : List Char) (h : s.contains c = true) : Tot T (pyIndexOf c s) :=
  (pyIndexOf_spec c s).mono (fun _ he => he (List.contains_iff_mem.mp h)) fun _ _ => trivial

/-- `extract_passage_params` never raises: the `in` test guards `.index` -/
theorem extractPassageParams_ok (h : List Char) : ∃ r, extractPassageParams h = .ok r := by
  refine Sat.exists_ok ?_
  unfold extractPassageParams
  refine Sat.ite (fun _ => .ok trivial) fun hc => Sat.seq (pyIndexOf_tot '(' h (Bool.not_not_eq.mp hc)) fun ps => ?_
  split <;> exact .ok trivial

/-- `extract_target_and_args` returns the text as it is, or splits it at the `(` that `.index` finds and the `)` that
the scan from there finds -/
theorem extractTargetAndArgs_tot (t : List Char) : Tot (fun r => r = (t, []) ∨ ∃ ps pe, pyIndexOf '(' t = .ok ps ∧
    findCloseQ (t.drop ps) ps 0 none = some pe ∧ r = (t.take ps, (t.take pe).drop (ps + 1))) (extractTargetAndArgs t) := by
  unfold extractTargetAndArgs
  refine Sat.ite (fun _ => .ok (.inl rfl)) fun hc => (pyIndexOf_tot '(' t (Bool.not_not_eq.mp hc)).self.bind fun ps hps => ?_
  split
  · exact .ok (.inl rfl)
  · exact .ok (.inr ⟨ps, _, hps, ‹_›, rfl⟩)

theorem extractTargetAndArgs_ok (t : List Char) : ∃ r, extractTargetAndArgs t = .ok r :=
  Sat.exists_ok ((extractTargetAndArgs_tot t).post fun _ _ => trivial)

/-- `parse_passage_params` answers a parameter list or one of its diagnostics, never an internal error -/
theorem parseParamsGo_tot (ex : ExprOracle) (parts : List (List Char)) (seen : Bool) (names : List (List Char))
    (acc : List Param) : Tot T (parseParamsGo ex parts seen names acc) := by
  induction parts generalizing seen names acc with
  | nil => exact .ok trivial
  | cons p rest ih =>
    unfold parseParamsGo
    refine Sat.ite (fun _ => ih _ _ _) fun _ => ?_
    -- the checks that follow the `name[=default]` split, whichever way the split went
    extract_lets checks
    have hchecks : ∀ x, Tot T (checks x) := by
      intro x
      iterate 7 (refine Sat.ite (fun _ => .ok trivial) fun _ => ?_)
      exact ih _ _ _
    clear_value checks
    exact Sat.ite (fun hc => Sat.seq (pyIndexOf_tot '=' _ hc) fun _ => Sat.pure_bind (hchecks _))
      fun _ => Sat.pure_bind (hchecks _)

theorem parsePassageParams_ok (ex : ExprOracle) (s : List Char) : ∃ r, parsePassageParams ex s = .ok r := by
  refine Sat.exists_ok ?_
  unfold parsePassageParams
  exact Sat.ite (fun _ => .ok trivial) fun _ => parseParamsGo_tot _ _ _ _ _

/-- `validate_passage_name` accepts or raises its SyntaxError — whatever Unicode says about the characters:
`name[0]` is only read for a non-empty name, and the suggestion falls back to the generic text when the search
loop finds no offending character (`suggestion or "…"`) -/
theorem validatePassageName_ok (alnum digit : Char → Bool) (name : List Char) :
    ∃ r, validatePassageName alnum digit name = .ok r := by
  refine Sat.exists_ok ?_
  unfold validatePassageName
  refine Sat.ite (fun _ => .ok trivial) fun hne => ?_
  iterate 3 (refine Sat.ite (fun _ => .ok trivial) fun _ => ?_)
  cases name with
  | nil => simp at hne
  | cons c r => exact Sat.pure_bind (Sat.ite (fun _ => .ok trivial) fun _ => .ok trivial)

/-- the bracket scanner never reads the top of an empty stack -/
theorem scanBrackets_ok (cs st : List Char) : ∃ r, scanBrackets cs st = .ok r := by
  refine Sat.exists_ok ?_
  fun_induction scanBrackets cs st
  case case1 | case4 => exact .ok trivial
  case case2 ih | case3 ih => exact ih
  case case5 st _ _ _ hst ih =>
    cases st with
    | nil => exact absurd rfl hst
    | cons t ts => exact Sat.pure_bind (Sat.ite (fun _ => ih) fun _ => .ok trivial)

/-- the continuation lines of a multi-line statement are the next lines of the text, as they stand -/
theorem collectLines_tot (ls : List (List Char)) (st : List Char) : Tot (· <+: ls) (collectLines ls st) := by
  fun_induction collectLines ls st with
  | case1 | case2 => exact .ok List.nil_prefix
  | case3 l ls st _ ih =>
    refine Sat.seq (Sat.of_exists_ok (scanBrackets_ok l st)) fun st' => ?_
    exact Sat.ite (fun _ => .ok (List.prefix_cons_inj l |>.mpr List.nil_prefix)) fun _ =>
      (ih st').bind fun more h => .ok ((List.prefix_cons_inj l).mpr h)

/-- `extract_multiline_expression` returns the statement's own text followed by the lines it continued on, and their number -/
theorem multiline_tot (lines : List (List Char)) (start : Nat) (init : List Char) :
    Tot (fun r => ∃ more, r = (init :: more, more.length + 1) ∧ more <+: lines.drop (start + 1))
      (multiline lines start init) := by
  unfold multiline
  extract_lets stripped
  split
  · exact .ok ⟨[], rfl, List.nil_prefix⟩
  · exact Sat.ite (fun _ => .ok ⟨[], rfl, List.nil_prefix⟩) fun _ => (collectLines_tot _ _).bind fun more h => .ok ⟨more, rfl, h⟩

/-- **`extract_multiline_expression` is total, uses at least one line and never runs past the text** (`max 1`: the
statement's own line counts even when `start` lies outside the text) -/
theorem multiline_ok (lines : List (List Char)) (start : Nat) (init : List Char) :
    ∃ e n, multiline lines start init = .ok (e, n) ∧ 1 ≤ n ∧ n ≤ max 1 (lines.length - start) := by
  obtain ⟨_, h, more, rfl, hm⟩ := Sat.tot_iff.mp (multiline_tot lines start init)
  have := hm.length_le
  rw [List.length_drop] at this
  -- (of the maximum only its two lower bounds are used: no case split)
  exact ⟨_, _, h, Nat.le_add_left _ _, by omega -splitMinMax⟩

theorem pyNewGo_consumed (ls acc : List (List Char)) (code : List (List Char)) (n : Nat)
    (h : pyNewGo ls acc = some (code, n)) : acc.length + 2 ≤ n ∧ n ≤ acc.length + ls.length + 1 := by
  fun_induction pyNewGo ls acc
  case case1 => cases h
  case case2 => cases h; exact ⟨Nat.le_refl _, Nat.add_le_add_left (Nat.le_add_left 2 _) _⟩
  case case3 ih =>
    have := ih h
    simp only [List.length_cons] at this ⊢
    omega

/-- **`@py:` blocks**: on a line inside the text the extractor answers a block or one of its two diagnostics;
a block uses at least two lines (opener and closer) and ends inside the text -/
theorem pyNew_ok (lines : List (List Char)) (start : Nat) (h : start < lines.length) :
    ∃ r, pyNew lines start = .ok r ∧ ∀ code n, r = .ok (code, n) → 2 ≤ n ∧ start + n ≤ lines.length := by
  refine Sat.tot_iff.mp ?_
  unfold pyNew
  rw [List.getElem?_eq_getElem h]
  refine Sat.pure_bind (Sat.ite (fun _ => .ok nofun) fun _ => ?_)
  split
  · exact .ok nofun
  · rename_i r hr
    refine .ok fun code n he => ?_
    cases he
    have := pyNewGo_consumed _ _ _ _ hr
    simp only [List.length_nil, List.length_drop] at this
    omega

theorem pyOldGo_consumed (ls : List (List Char)) (acc : List (List Char)) :
    acc.length + 2 ≤ (pyOldGo ls acc).2 ∧ (pyOldGo ls acc).2 ≤ acc.length + ls.length + 2 := by
  fun_induction pyOldGo ls acc
  case case1 | case2 => simp
  case case3 ih =>
    simp only [List.length_cons] at ih ⊢
    omega

/-- **legacy `<<py` blocks**: at least two lines are used and the index lands at most one past the end of the text
(an unclosed legacy block silently runs to the end) -/
theorem pyOld_consumed (lines : List (List Char)) (start : Nat) (h : start < lines.length) :
    2 ≤ (pyOld lines start).2 ∧ start + (pyOld lines start).2 ≤ lines.length + 1 := by
  unfold pyOld
  have := pyOldGo_consumed (lines.drop (start + 1)) []
  simp only [List.length_nil, List.length_drop] at this
  omega

/-- `findClose` answers a position inside the scanned text -/
theorem findClose_bound (cs : List Char) (pos : Nat) (d : Int) (pe : Nat) (h : findClose cs pos d = some pe) :
    pos ≤ pe ∧ pe < pos + cs.length := by
  fun_induction findClose cs pos d
  case case1 => cases h
  case case3 => cases h; exact ⟨Nat.le_refl _, Nat.lt_add_of_pos_right (Nat.succ_pos _)⟩
  case case2 ih | case4 ih | case5 ih =>
    exact ⟨Nat.le_of_succ_le (ih h).1, Nat.lt_of_lt_of_eq (ih h).2 (Nat.add_right_comm ..)⟩

theorem splitFirstL_append (c : Char) : ∀ (name rest : List Char), (∀ x ∈ name, (x == c) = false) →
    splitFirstL c (name ++ c :: rest) = some (name, rest)
  | [], rest, _ => if_pos (beq_self_eq_true' c)
  | x :: xs, rest, h => by
    obtain ⟨hx, hxs⟩ := List.forall_mem_cons.mp h
    simp only [List.cons_append, splitFirstL, hx, splitFirstL_append c xs rest hxs, Bool.false_eq_true, if_false]

/-- behind the guard `c in s` the split finds its separator -/
theorem splitFirstL_some_of_mem (c : Char) (s : List Char) (h : c ∈ s) : splitFirstL c s ≠ none := by
  obtain ⟨name, rest, rfl, hn⟩ := List.eq_append_cons_of_mem h
  rw [splitFirstL_append c name rest fun x hx => beq_false_of_ne fun e => hn (e ▸ hx)]
  nofun

theorem condScan_ok (cp : List Char) : ∃ r, condScan cp = .ok r := by
  refine Sat.exists_ok ?_
  unfold condScan
  refine Sat.ite (fun hc => ?_) fun _ => .ok trivial
  simp only [Bool.and_eq_true] at hc
  refine Sat.seq (pyIndexOf_tot '{' cp hc.1) fun fb => Sat.seq (pyIndexOf_tot '[' cp hc.2) fun fk => ?_
  exact Sat.ite (fun _ => by split <;> exact .ok trivial) fun _ => .ok trivial

theorem bracketStage_ok (cp target : List Char) (ce : Option Nat) : ∃ r, bracketStage cp target ce = .ok r := by
  refine Sat.exists_ok ?_
  unfold bracketStage
  refine Sat.ite (fun _ => .ok trivial) fun _ => ?_
  extract_lets ss remaining
  refine Sat.ite (fun _ => .ok trivial) fun h3 => Sat.ite (fun _ => .ok trivial) fun h4 => ?_
  refine Sat.seq (pyIndexOf_tot '[' remaining (Bool.not_not_eq.mp h3)) fun bo =>
    Sat.seq (pyIndexOf_tot ']' remaining (Bool.not_not_eq.mp h4)) fun bc => ?_
  iterate 4 (refine Sat.ite (fun _ => .ok trivial) fun _ => ?_)
  exact .ok trivial

/-- **`validate_choice_syntax` accepts a line or raises one of its nine diagnostics — for every line**: each `.index` is
guarded by the `in` test in front of it, and the first word of the target is only taken when there is one -/
theorem validateChoice_ok (line : List Char) : ∃ r, validateChoice line = .ok r := by
  refine Sat.exists_ok ?_
  unfold validateChoice
  extract_lets clean
  split
  · exact .ok trivial
  · refine Sat.ite (fun _ => .ok trivial) fun _ => Sat.ite (fun _ => .ok trivial) fun _ => ?_
    refine Sat.seq (Sat.of_exists_ok (condScan_ok _)) fun ce => ?_
    cases ce with
    | error d => exact .ok trivial
    | ok c => exact Sat.of_exists_ok (bracketStage_ok _ _ _)

/-! concrete, non-trivial instances (tests, not theorems) -/
def okWith {α} (p : α → Bool) : PyM α → Bool
  | .ok a => p a
  | .error _ => false
example : okWith (fun r => r.2 == 3) (multiline ["~ items = [".toList, "  1,".toList, "]]".toList, "x".toList] 0 "items = [".toList) = true := by decide +kernel
example : okWith (fun r => r == ("Cave ^dark".toList, "depth=(1)".toList)) (extractPassageParams "Cave(depth=(1)) ^dark".toList) = true := by decide +kernel
example : okWith (fun r => r == some .generic) (validatePassageName (fun _ => true) (fun _ => false) ".hidden".toList) = true := by decide +kernel
example : okWith (fun r => match r with | .ok (_, n) => n == 3 | _ => false) (pyNew ["@py:".toList, "x = 1".toList, "@endpy".toList] 0) = true := by decide +kernel
end Bardic.Parser
