import Bardic.Parser.Content
import Proofs.C17
/-!
# C11 / C17 — the content tokenizer: its recursion is bounded by the length of the line; a trailing
comment does not change its result
-/
namespace Bardic.Parser

/-- a tag match is cut from the head of the text: the marker, a word, possibly `:` and a second word -/
theorem tagMatch_le (cs m : List Char) (h : tagMatch cs = some m) : m.length ≤ cs.length := by
  revert h
  fun_cases tagMatch cs
  case case1 | case5 => exact nofun
  case case2 r w _ _ _ _ _ _ | case4 r w _ _ _ =>
    intro h; cases h
    exact Nat.succ_le_succ (List.takeWhile_sublist isWord).length_le
  case case3 r w _ r2 r3 hr p _ =>
    intro h; cases h
    have hp : p.length ≤ r3.length := (List.takeWhile_sublist _).length_le
    have hd : (r.drop w.length).length = r3.length + 1 := congrArg List.length hr
    rw [List.length_drop] at hd
    simp only [List.length_cons, List.length_append]
    omega

/-- the line that `parse_tags` returns is never longer than the one it was given -/
theorem parseTagsGo_length (n : Nat) (cs : List Char) (d : Int) (kept : List Char) (tags : List (List Char)) :
    (parseTagsGo n cs d kept tags).1.length ≤ kept.length + cs.length := by
  fun_induction parseTagsGo n cs d kept tags with
  | case1 | case2 => simp
  | case3 n c r d kept tags m hm rest inner _ ih =>
    exact Nat.le_trans ih (Nat.add_le_add_left (List.drop_sublist _ _).length_le _)
  | case4 n c r d kept tags m hm rest inner _ ih =>
    have : rest.length + m.length = (c :: r).length := List.length_drop ▸ Nat.sub_add_cancel (tagMatch_le _ _ hm)
    simp only [List.length_append, List.length_reverse] at ih
    omega
  | case5 n c r d kept tags _ d' ih => exact le_of_le_of_eq ih (Nat.add_right_comm ..)

theorem parseTags_length (line : List Char) : (parseTags line).1.length ≤ line.length := by
  unfold parseTags
  have := parseTagsGo_length (line.length + 1) line 0 [] []
  generalize parseTagsGo (line.length + 1) line 0 [] [] = x at this
  obtain ⟨l, tags⟩ := x
  dsimp only at this ⊢
  split
  · exact Nat.le_refl _
  · exact Nat.le_trans (rstripL_sublist l).length_le (le_of_le_of_eq this (Nat.zero_add _))

/-- every part that `split_expressions_with_depth` yields is a piece of the text: no longer than a bound `N` that
the finished parts, and the current part together with the unread text, stay below -/
theorem splitGo_length (cs cur : List Char) (depth : Nat) (res : List (List Char)) (N : Nat)
    (hres : ∀ p ∈ res, p.length ≤ N) (hcur : cur.length + cs.length ≤ N) :
    ∀ (r : List (List Char)) (c2 : List Char), splitGo cs cur depth res = .ok (r, c2) →
      (∀ p ∈ r, p.length ≤ N) ∧ c2.length ≤ N := by
  -- a part is finished: it joins the finished ones
  have push : ∀ {p : List Char} {res : List (List Char)}, p.length ≤ N → (∀ q ∈ res, q.length ≤ N) →
      ∀ q ∈ p.reverse :: res, q.length ≤ N := fun hp hres =>
    List.forall_mem_cons.mpr ⟨by rwa [List.length_reverse], hres⟩
  fun_induction splitGo cs cur depth res with
  | case1 => exact nofun
  | case2 cur depth res _ =>
    intro r c2 h
    cases h
    exact ⟨fun p hp => hres p (List.mem_reverse.mp hp), by rwa [List.length_reverse, ← Nat.add_zero cur.length]⟩
  | case5 => exact nofun
  | case3 c r cur depth res _ _ ih =>
    exact ih (push (Nat.le_trans (Nat.le_add_right ..) hcur) hres)
      (le_of_eq_of_le (Nat.add_comm ..) (Nat.le_trans (Nat.le_add_left ..) hcur))
  | case6 c r cur depth res _ _ _ _ ih =>
    exact ih (push (Nat.le_trans (Nat.add_le_add_left (Nat.le_add_left 1 _) _) hcur) hres)
      (le_of_eq_of_le (Nat.zero_add _) (Nat.le_trans (Nat.le_add_left ..) (Nat.le_of_succ_le hcur)))
  | case4 c r cur depth res _ _ ih | case7 c r cur depth res _ _ _ _ ih | case8 c r cur depth res _ _ ih =>
    exact ih hres (by rwa [List.length_cons, Nat.add_right_comm])

theorem splitExprs_length (t : List Char) (parts : List (List Char)) (h : splitExprs t = .ok parts) :
    ∀ p ∈ parts, p.length ≤ t.length := by
  have go := splitGo_length t [] 0 [] t.length nofun (Nat.le_of_eq (Nat.zero_add _))
  revert h
  fun_cases splitExprs t
  case case1 => exact nofun
  case case2 res cur hg _ =>
    intro h; cases h
    exact List.forall_mem_append.mpr ⟨(go res cur hg).1, List.forall_mem_singleton.mpr (go res cur hg).2⟩
  case case3 res cur hg _ =>
    intro h; cases h
    exact (go _ _ hg).1

/-- the tokenizer's continuations `| .ok ts => k ts | r => r` hand on what is not `.ok` unchanged: no `outOfFuel` comes in -/
theorem ContentRes.andThen_noFuel {x : ContentRes} {k : List CTok → ContentRes} (hx : x ≠ .outOfFuel)
    (hk : ∀ ts, k ts ≠ .outOfFuel) : (match x with | .ok ts => k ts | r => r) ≠ .outOfFuel := by
  cases x with
  | ok ts => exact hk ts
  | diag d => exact nofun
  | outOfFuel => exact absurd rfl hx

/-- the line itself: comment, tags and `{…}` splitting only shorten it, so its parts fit the fuel handed down -/
theorem contentLine_noFuel (f : Nat)
    (hP : ∀ parts : List (List Char), (∀ p ∈ parts, p.length ≤ f) → contentParts f parts ≠ .outOfFuel) (b : Bool)
    (line : List Char) (hlen : line.length < f + 1) : contentLine (f + 1) b line ≠ .outOfFuel := by
  unfold contentLine
  extract_lets p line1
  have h1 : line1.length ≤ line.length := by
    cases b
    · exact Nat.le_refl _
    · show (if p.2.isEmpty then p.1 else rstripL p.1).length ≤ _
      split
      · exact (strip_sublist line).length_le
      · exact Nat.le_trans ((rstripL_sublist _).length_le) ((strip_sublist line).length_le)
  have h2 := parseTags_length line1
  generalize parseTags line1 = pt at h2
  obtain ⟨lwt, tags⟩ := pt
  dsimp only at h2 ⊢
  split
  · exact nofun
  · rename_i parts hs
    have hp := splitExprs_length lwt parts hs
    exact ContentRes.andThen_noFuel (hP parts fun p hp' => by have := hp p hp'; omega) fun _ => nofun

/-- an inline conditional hands strictly shorter texts to the tokenizer -/
theorem inlineCond_noFuel (fuel : Nat)
    (hL : ∀ b (line : List Char), line.length < fuel → contentLine fuel b line ≠ .outOfFuel) (expr : List Char)
    (hlen : expr.length < fuel) : inlineCond fuel expr ≠ some .outOfFuel := by
  -- both branches are stripped pieces of `expr`
  have piece : ∀ t : List Char, t.Sublist expr →
      (if (stripL t).isEmpty then ContentRes.ok [] else contentLine fuel false (stripL t)) ≠ .outOfFuel := by
    intro t ht
    split
    · exact nofun
    · exact hL false _ (Nat.lt_of_le_of_lt ((stripL_sublist t).trans ht).length_le hlen)
  fun_cases inlineCond fuel expr
  case case5 => exact fun h => piece _ ((List.drop_sublist _ _).trans (List.drop_sublist _ _)) (Option.some.inj h)
  case case6 => exact fun h => piece _ ((List.take_sublist _ _).trans (List.drop_sublist _ _)) (Option.some.inj h)
  all_goals nofun

/-- the parts of a line: only a `{…}` part recurses, into the text between its braces -/
theorem contentParts_noFuel (fuel : Nat)
    (hC : ∀ expr : List Char, expr.length < fuel → inlineCond fuel expr ≠ some .outOfFuel) :
    ∀ parts : List (List Char), (∀ p ∈ parts, p.length ≤ fuel) → contentParts fuel parts ≠ .outOfFuel
  | [], _ => by unfold contentParts; exact nofun
  | p :: rest, h => by
    unfold contentParts
    extract_lets expr tok
    refine ContentRes.andThen_noFuel ?_ fun _ =>
      ContentRes.andThen_noFuel (contentParts_noFuel fuel hC rest fun q hq => h q (List.mem_cons_of_mem _ hq)) fun _ => nofun
    show (if _ then _ else _) ≠ _
    split
    · rename_i hbr
      have : expr.length < fuel := by
        have := h p (List.mem_cons_self ..)
        simp only [Bool.and_eq_true, decide_eq_true_eq] at hbr
        simp only [expr, List.length_dropLast, List.length_drop]
        omega
      have := hC expr this
      split
      · rename_i r hr; intro he; rw [he] at hr; exact this hr
      · exact nofun
    · split <;> exact nofun

/-- **the tokenizer's recursion is bounded by the length of the line**: with fuel above the length of the line
the recursive descent into the branches of inline conditionals never runs out — `parse_content_line`
terminates on every input, however the braces nest -/
theorem contentLine_fuel : ∀ (fuel : Nat),
    (∀ b (line : List Char), line.length < fuel → contentLine fuel b line ≠ .outOfFuel) ∧
    (∀ parts : List (List Char), (∀ p ∈ parts, p.length ≤ fuel) → contentParts fuel parts ≠ .outOfFuel) ∧
    (∀ expr : List Char, expr.length < fuel → inlineCond fuel expr ≠ some .outOfFuel)
  | 0 =>
    have hL : ∀ b (line : List Char), line.length < 0 → contentLine 0 b line ≠ .outOfFuel := fun _ _ => nofun
    have hC := inlineCond_noFuel 0 hL
    ⟨hL, contentParts_noFuel 0 hC, hC⟩
  | f + 1 =>
    have hL := contentLine_noFuel f (contentLine_fuel f).2.1
    have hC := inlineCond_noFuel (f + 1) hL
    ⟨hL, contentParts_noFuel (f + 1) hC, hC⟩

theorem parseContentLine_terminates (line : List Char) : parseContentLine line ≠ .outOfFuel :=
  (contentLine_fuel (line.length + 1)).1 true line (Nat.lt_succ_self _)

/-! ## a trailing comment is invisible to the tokenizer -/

/-- **a trailing `// comment` (and the blank before it) does not change what a content line compiles to** — for
every line without slashes or backslashes that does not itself end in a blank, every comment text that does not start
with `=` (`//=` is an operator), at any fuel -/
theorem contentLine_comment_invisible (fuel : Nat) (l c : List Char) (hl : NoSlash l) (hr : rstripL l = l)
    (hc : c.head? ≠ some '=') :
    contentLine fuel true (l ++ ' ' :: '/' :: '/' :: c) = contentLine fuel true l := by
  cases fuel with
  | zero => simp [contentLine]
  | succ f =>
    unfold contentLine
    simp only [strip_comment_suffix l c hl hc, strip_noslash l hl, if_true, List.isEmpty_nil,
      List.isEmpty_cons, Bool.false_eq_true, if_false, rstripL_ws_append l [' '] (by decide), hr]

end Bardic.Parser
