/-!
# Outcomes of an `Except` computation

`Sat E P x`: the computation `x` returns only values in `P` and fails only with errors in `E`.  The parser model
is written in `PyM = Except Internal` (components) and `PM = Except Fail` (text level); everything the proofs say
about a parser function — no internal error, no exhausted fuel, a diagnostic names a line of the text, the returned
index has moved on — is a `Sat` for a suitable `E` and `P`, and is proved by following the function with `bind`, `ite`.
-/
namespace Bardic.Parser
universe u v

/-- An inductive predicate, not a function defined by cases on `x`: nothing ever has to evaluate `x` to see what the
statement says. -/
inductive Sat {ε : Type u} {α : Type v} (E : ε → Prop) (P : α → Prop) : Except ε α → Prop
  | ok {a : α} : P a → Sat E P (.ok a)
  | err {e : ε} : E e → Sat E P (.error e)

/-- a computation that returns, with a value in `P` -/
abbrev Tot {ε : Type u} {α : Type v} (P : α → Prop) (x : Except ε α) : Prop := Sat (fun _ => False) P x

/-- no postcondition -/
abbrev T {α} : α → Prop := fun _ => True

namespace Sat
variable {ε : Type u} {α β : Type v} {E : ε → Prop} {P : α → Prop} {Q : β → Prop}

theorem ok_of {x : Except ε α} {a : α} (hx : Sat E P x) (h : x = .ok a) : P a := by
  cases hx with
  | ok hp => cases h; exact hp
  | err _ => cases h

theorem err_of {x : Except ε α} {e : ε} (hx : Sat E P x) (h : x = .error e) : E e := by
  cases hx with
  | ok _ => cases h
  | err he => cases h; exact he

theorem bind {x : Except ε α} {f : α → Except ε β} (hx : Sat E P x) (hf : ∀ a, P a → Sat E Q (f a)) :
    Sat E Q (x >>= f) := by
  cases hx with
  | ok hp => exact hf _ hp
  | err he => exact .err he

/-- `bind` when nothing needs to be known about the intermediate value -/
theorem seq {x : Except ε α} {f : α → Except ε β} (hx : Sat E P x) (hf : ∀ a, Sat E Q (f a)) : Sat E Q (x >>= f) :=
  hx.bind fun a _ => hf a

theorem pure_bind {a : α} {f : α → Except ε β} (h : Sat E Q (f a)) : Sat E Q (Pure.pure a >>= f) := h

theorem map {x : Except ε α} {f : α → β} (hx : Sat E P x) (hf : ∀ a, P a → Q (f a)) : Sat E Q (x.map f) := by
  cases hx with
  | ok hp => exact .ok (hf _ hp)
  | err he => exact .err he

theorem mono {E' : ε → Prop} {P' : α → Prop} {x : Except ε α} (hx : Sat E P x) (hE : ∀ e, E e → E' e)
    (hP : ∀ a, P a → P' a) : Sat E' P' x := by
  cases hx with
  | ok hp => exact .ok (hP _ hp)
  | err he => exact .err (hE _ he)

theorem post {P' : α → Prop} {x : Except ε α} (hx : Sat E P x) (hP : ∀ a, P a → P' a) : Sat E P' x :=
  hx.mono (fun _ h => h) hP

theorem ite {c : Prop} [Decidable c] {a b : Except ε α} (ha : c → Sat E P a) (hb : ¬c → Sat E P b) :
    Sat E P (if c then a else b) := by
  split
  · exact ha ‹_›
  · exact hb ‹_›

theorem dite {c : Prop} [Decidable c] {a : c → Except ε α} {b : ¬c → Except ε α} (ha : ∀ h, Sat E P (a h))
    (hb : ∀ h, Sat E P (b h)) : Sat E P (if h : c then a h else b h) := by
  split
  · exact ha ‹_›
  · exact hb ‹_›

/-- the postcondition "is the value returned": lets a later step use the equation `x = .ok a` -/
theorem self {x : Except ε α} (hx : Sat E P x) : Sat E (fun a => x = .ok a) x := by
  cases hx with
  | ok _ => exact .ok rfl
  | err he => exact .err he

theorem tot_iff {x : Except ε α} : Tot P x ↔ ∃ a, x = .ok a ∧ P a :=
  ⟨fun h => by cases h with | ok hp => exact ⟨_, rfl, hp⟩ | err he => exact he.elim,
   fun ⟨_, hx, hp⟩ => hx ▸ .ok hp⟩

theorem exists_ok {x : Except ε α} (hx : Tot T x) : ∃ a, x = .ok a :=
  let ⟨a, h, _⟩ := tot_iff.mp hx; ⟨a, h⟩

theorem of_exists_ok {x : Except ε α} (h : ∃ a, x = .ok a) : Sat E T x :=
  let ⟨_, ha⟩ := h; ha ▸ .ok trivial

end Sat
end Bardic.Parser
