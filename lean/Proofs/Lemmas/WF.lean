import Proofs.C04
/-!
# The invariant `Eng.WF` holds in every reachable state

`step_WF`, `init_WF`, and `run_induct` — induction over a history of API calls, which C07's `reachable_no_scope` uses too
(with `init_ok`: what a fresh engine is).
-/
namespace Bardic
variable {S : Sem}

theorem Eng.WF.push {e : Eng S.V} (hw : e.WF) : ∀ s ∈ pushCap (Snap.of e.live) e.undo, s.out.isSome := by
  intro s hs
  rcases pushCap_mem _ _ _ hs with rfl | h
  · exact hw.live
  · exact hw.undo s h

theorem doChoose_WF (c : ECfg S) (e : Eng S.V) (i : Int) (hw : e.WF) : (e.doChoose c i).1.WF := by
  rcases doChoose_cases c e i with ⟨x, h⟩ | ⟨cur, hc, h0, h1⟩
  · rw [h]; exact hw
  · rw [doChoose_eq c e i cur hc h0 h1]
    refine ⟨chooseNav_inv (outKept_navInv c) (fun _ _ => id) _ _ ?_, hw.push, List.forall_mem_nil _,
      pushCap_length_le _ _⟩
    rw [markUsed_eq]
    exact hw.live

theorem doUndo_WF (c : ECfg S) (e : Eng S.V) (hw : e.WF) : (e.doUndo c).1.WF := by
  cases hu : e.undo with
  | nil => rw [undo_empty_noop c e hu]; exact hw
  | cons prev rest =>
    have hp : prev.out.isSome := hw.undo prev (hu ▸ List.mem_cons_self)
    rw [doUndo_eq c e prev rest hu hp]
    refine ⟨(restore_ok c prev e.live hp).2.1 ▸ hp, fun s hs => hw.undo s (hu ▸ List.mem_cons_of_mem _ hs), ?_, ?_⟩
    · intro s hs
      rcases List.mem_cons.mp hs with rfl | h
      · exact hw.live
      · exact hw.redo s h
    · exact Nat.le_of_succ_le (hu ▸ hw.cap :)

theorem doRedo_WF (c : ECfg S) (e : Eng S.V) (hw : e.WF) : (e.doRedo c).1.WF := by
  cases hu : e.redo with
  | nil => rw [redo_empty_noop c e hu]; exact hw
  | cons nxt rest =>
    have hp : nxt.out.isSome := hw.redo nxt (hu ▸ List.mem_cons_self)
    rw [doRedo_eq c e nxt rest hu hp]
    exact ⟨(restore_ok c nxt e.live hp).2.1 ▸ hp, hw.push, fun s hs => hw.redo s (hu ▸ List.mem_cons_of_mem _ hs),
      pushCap_length_le _ _⟩

theorem doLoad_WF (c : ECfg S) (a : LoadArg S.V) (e : Eng S.V) (hw : e.WF) : (e.doLoad c a).1.WF := by
  fun_cases Eng.doLoad c a e
  case case1 | case2 | case3 => exact hw
  case case4 l1 _ _ hg | case5 l1 _ _ hg =>
    refine ⟨rel_of_eq_fst hg (goto_outKept c _ _ _) ?_, List.forall_mem_nil _, List.forall_mem_nil _, Nat.zero_le _⟩
    unfold l1
    cases c.variant <;> exact hw.live

theorem step_WF (c : ECfg S) (e : Eng S.V) (op : Op S.V) (hw : e.WF) : (step c e op).1.WF := by
  cases op with
  | choose i => exact doChoose_WF c e i hw
  | undo => exact doUndo_WF c e hw
  | redo => exact doRedo_WF c e hw
  | goto spec =>
    rw [step_goto]
    exact ⟨goto_outKept c _ _ _ hw.live, hw.undo, hw.redo, hw.cap⟩
  | load a => exact doLoad_WF c a e hw
  | resetOneTime => exact ⟨hw.live, hw.undo, hw.redo, hw.cap⟩
  | _ => exact hw

/-- a freshly constructed engine is the state a successful `goto` to the initial passage ends in, with no history -/
theorem init_ok (c : ECfg S) (e : Eng S.V) (h : Eng.init c = .ok e) :
    ∃ o l, goto c c.fuel c.story.initial (initLive c) = (l, .ok o) ∧ e = ⟨l, [], []⟩ := by
  revert h
  fun_cases Eng.init c
  case case1 | case2 | case4 => intro h; cases h
  case case3 l o hg => intro h; cases h; exact ⟨o, l, hg, rfl⟩

theorem init_WF (c : ECfg S) (e : Eng S.V) (h : Eng.init c = .ok e) : e.WF := by
  obtain ⟨o, l, hg, rfl⟩ := init_ok c e h
  have : l.out = some o := (hg ▸ goto_cached c _ _ _ : OutCached (l, .ok o)) o rfl
  exact ⟨by rw [this]; rfl, List.forall_mem_nil _, List.forall_mem_nil _, Nat.zero_le _⟩

/-- what every API call keeps holds after every history -/
theorem run_induct {P : Eng S.V → Prop} (c : ECfg S) (hstep : ∀ e op, P e → P (step c e op).1) :
    ∀ (ops : List (Op S.V)) (e : Eng S.V), P e → P (run c e ops).1
  | [], _, h => h
  | op :: ops, e, h => run_induct c hstep ops (step c e op).1 (hstep e op h)

theorem run_WF (c : ECfg S) : ∀ (ops : List (Op S.V)) (e : Eng S.V), e.WF → (run c e ops).1.WF :=
  run_induct c (step_WF c)

/-- at most `undoCap` (= 50) choices can be undone, in every reachable state -/
theorem undo_depth_le_cap (c : ECfg S) (e0 : Eng S.V) (h0 : Eng.init c = .ok e0) (ops : List (Op S.V)) :
    (run c e0 ops).1.undo.length ≤ 50 :=
  (run_WF c ops e0 (init_WF c e0 h0)).cap

end Bardic
