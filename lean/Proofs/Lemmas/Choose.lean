import Proofs.Lemmas.NavInv
/-!
# `choose` = record the choice taken, navigate, push the history

`Eng.doChoose` with a valid index is `chooseNav` (a `-> @join` choice, or `goto` followed by the
`turn_end` hooks) run on the state in which the choice is already marked as used; what `choose` does
to the live game is therefore what `chooseNav` does.
-/
namespace Bardic
variable {S : Sem}

/-- a one-time choice is recorded when it is taken -/
def markUsed (pid : String) (ch : OChoice) (l : Live S.V) : Live S.V :=
  if !ch.c.sticky then { l with used := setInsert l.used (choiceId pid ch.text ch.c.target) } else l

theorem markUsed_eq (pid : String) (ch : OChoice) (l : Live S.V) : markUsed pid ch l =
    { l with used := if !ch.c.sticky then setInsert l.used (choiceId pid ch.text ch.c.target) else l.used } := by
  unfold markUsed
  cases ch.c.sticky <;> rfl

def chooseNav (c : ECfg S) (ch : OChoice) (l : Live S.V) : NRes S (Output S.V) :=
  if ch.c.target == "@join" && c.variant == .main then joinChoice c ch l
  else
    match goto c c.fuel (specOf ch) l with
    | (l2, .error ex) => (l2, .error ex)
    | (l2, .ok r) =>
      match c.variant with
      | .browser => (l2, .ok r)
      | .main =>
        match triggerEvent c "turn_end" l2 with
        | (l3, .error ex) => (l3, .error ex)
        | (l3, .ok h) => let (l4, r') := withHookText l3 r h; (l4, .ok r')

/-- how `choose` answers for a navigation result -/
def navResp : Except Exc (Output S.V) → Resp S.V
  | .ok r => .out r
  | .error ex => .raised ex

theorem navResp_out {x : Except Exc (Output S.V)} {o} (h : navResp x = .out o) : x = .ok o := by
  cases x <;> cases h
  rfl

/-- the API call `goto` puts the state the navigation ends in in place of the live game -/
theorem step_goto (c : ECfg S) (e : Eng S.V) (spec : String) : step c e (.goto spec) =
    ({ e with live := (goto c c.fuel spec e.live).1 }, navResp (goto c c.fuel spec e.live).2) := by
  unfold step
  dsimp only
  rcases goto c c.fuel spec e.live with ⟨l, _ | _⟩ <;> rfl

/-- (Where a fact about `chooseNav` is to be matched against the goal afterwards, rewrite with this by `simp only`, which also
reduces `(x, y).1`: faced with the projection of the pair the unifier evaluates `chooseNav` as far as it can.) -/
theorem doChoose_eq (c : ECfg S) (e : Eng S.V) (i : Int) (cur : Output S.V)
    (hc : e.live.out = some cur) (h0 : 0 ≤ i) (h1 : i < cur.choices.length) :
    e.doChoose c i =
      (⟨(chooseNav c (cur.choices[i.toNat]!) (markUsed cur.pid (cur.choices[i.toNat]!) e.live)).1,
        pushCap (Snap.of e.live) e.undo, []⟩,
       navResp (chooseNav c (cur.choices[i.toNat]!) (markUsed cur.pid (cur.choices[i.toNat]!) e.live)).2) := by
  have hr : ¬(decide (i < 0) || decide (i ≥ ↑cur.choices.length)) = true := by
    simp only [Bool.or_eq_true, decide_eq_true_eq]
    omega
  unfold Eng.doChoose
  rw [hc]
  dsimp only
  rw [if_neg hr]
  unfold chooseNav markUsed
  -- both sides branch alike; once a call's result is a pair of a state and `ok`/`error`, they agree by computation
  by_cases hJ : ((cur.choices[i.toNat]!).c.target == "@join" && c.variant == .main) = true
  · rewrite [if_pos hJ, if_pos hJ]
    generalize joinChoice c _ _ = n
    obtain ⟨l2, _ | _⟩ := n <;> rfl
  · rewrite [if_neg hJ, if_neg hJ]
    generalize goto c c.fuel _ _ = n
    obtain ⟨l2, _ | r⟩ := n
    · rfl
    · dsimp only
      cases c.variant with
      | browser => rfl
      | main =>
        generalize triggerEvent c _ l2 = n
        obtain ⟨l3, _ | h⟩ := n <;> rfl

/-- `choose` either refuses (no output displayed, index out of range) and changes nothing, or its index is valid -/
theorem doChoose_cases (c : ECfg S) (e : Eng S.V) (i : Int) :
    (∃ x, e.doChoose c i = (e, .raised x)) ∨
    ∃ cur, e.live.out = some cur ∧ 0 ≤ i ∧ i < cur.choices.length := by
  unfold Eng.doChoose
  cases e.live.out with
  | none => exact .inl ⟨_, rfl⟩
  | some cur =>
    by_cases hr : (decide (i < 0) || decide (i ≥ ↑cur.choices.length)) = true
    · exact .inl ⟨_, if_pos hr⟩
    · simp only [Bool.or_eq_true, decide_eq_true_eq, not_or, Int.not_lt, Int.not_le] at hr
      exact .inr ⟨cur, rfl, hr⟩

/-! ## what `chooseNav` respects -/

variable {c : ECfg S} {Q : Live S.V → Live S.V → Prop}

theorem withHookText_inv (h : NavInv S c Q) (l : Live S.V) (r : Output S.V) (s : String) :
    Q (withHookText l r s).1 l := by
  fun_cases withHookText l r s
  · exact h.out _ _
  · exact h.refl _

/-- a relation `goto` respects that also ignores the render state is respected by a `-> @join` choice … -/
theorem joinChoice_inv (h : NavInv S c Q) (hrs : ∀ l r, Q (l.withRS r) l) (ch : OChoice) (l : Live S.V) :
    Q (joinChoice c ch l).1 l := by
  have hj : ∀ {idx l1 l2 r}, renderFromJoinMarker c idx l1 = (l2, r) → Q l2 l1 :=
    fun he => (rel_of_eq_fst he (renderFromJoinMarker_rsOnly ..)).rel hrs
  have ht : ∀ {l4 l5 r}, triggerEvent c "turn_end" l4 = (l5, r) → Q l5 l4 :=
    fun he => (rel_of_eq_fst he (triggerEvent_rsOnly ..)).rel hrs
  fun_cases joinChoice c ch l
  case case1 => exact hrs _ _
  case case2 he => exact h.trans (hj he) (hrs _ _)
  case case3 he _ _ _ _ _ _ hte =>
    exact h.trans (ht hte) (h.trans (h.out _ _) (h.trans (h.cur _ _ _) (h.trans (hj he) (hrs _ _))))
  case case4 he _ _ _ _ _ _ hte _ _ hw =>
    exact h.trans (rel_of_eq_fst hw (withHookText_inv h ..))
      (h.trans (ht hte) (h.trans (h.out _ _) (h.trans (h.cur _ _ _) (h.trans (hj he) (hrs _ _)))))

/-- … and by the navigation part of `choose` -/
theorem chooseNav_inv (h : NavInv S c Q) (hrs : ∀ l r, Q (l.withRS r) l) (ch : OChoice) (l : Live S.V) :
    Q (chooseNav c ch l).1 l := by
  have hg : ∀ {l2 r}, goto c c.fuel (specOf ch) l = (l2, r) → Q l2 l := fun he => rel_of_eq_fst he (goto_inv h ..)
  have ht : ∀ {l2 l3 r}, triggerEvent c "turn_end" l2 = (l3, r) → Q l3 l2 :=
    fun he => (rel_of_eq_fst he (triggerEvent_rsOnly ..)).rel hrs
  fun_cases chooseNav c ch l
  case case1 => exact joinChoice_inv h hrs ch l
  case case2 he | case3 he _ => exact hg he
  case case4 he _ _ _ hte => exact h.trans (ht hte) (hg he)
  case case5 he _ _ _ hte _ _ hw =>
    exact h.trans (rel_of_eq_fst hw (withHookText_inv h ..)) (h.trans (ht hte) (hg he))

theorem chooseNav_frame (c : ECfg S) (ch : OChoice) (l : Live S.V) : SameFrame (chooseNav c ch l).1 l :=
  chooseNav_inv (sameFrame_navInv c) (fun _ _ => ⟨rfl, rfl⟩) ch l

end Bardic
