import Bardic.Engine.Api
/-!
# Frame lemmas: what navigation never touches

Passage-level calls (`renderPassage`, `executePassage`, `renderFromJoinMarker`, `runHooks`,
`trigger_event`) change nothing but the render state `vars`, `hooks`, `log` (`RSOnly`); every "this
field is left alone" fact about them is a projection of that.  `goto` also moves `cur`, `joinIdx`
and `out` — never `used`, the scope stack is restored (`SameFrame`) and a cached output is never
lost (`OutKept`).
-/
namespace Bardic
variable {S : Sem}

@[simp] theorem Live.withRS_scopes (l : Live S.V) (r : RS S.V) : (l.withRS r).scopes = l.scopes := rfl
@[simp] theorem Live.withRS_used (l : Live S.V) (r : RS S.V) : (l.withRS r).used = l.used := rfl
@[simp] theorem Live.withRS_cur (l : Live S.V) (r : RS S.V) : (l.withRS r).cur = l.cur := rfl
@[simp] theorem Live.withRS_joinIdx (l : Live S.V) (r : RS S.V) : (l.withRS r).joinIdx = l.joinIdx := rfl
@[simp] theorem Live.withRS_out (l : Live S.V) (r : RS S.V) : (l.withRS r).out = l.out := rfl

/-- a fact about the state a call ends in, read off the equation a case split on the call leaves behind -/
theorem rel_of_eq_fst {α β γ : Type} {R : α → γ → Prop} {f : α × β} {a : α} {b : β} {x : γ}
    (he : f = (a, b)) (hf : R f.1 x) : R a x := by subst he; exact hf

section keepCur
variable {α : Type}
@[simp] theorem keepCurOnError_snd (l0 : Live S.V) (r : NRes S α) : (keepCurOnError l0 r).2 = r.2 := by
  obtain ⟨l', _ | _⟩ := r <;> rfl
@[simp] theorem keepCurOnError_scopes (l0 : Live S.V) (r : NRes S α) : (keepCurOnError l0 r).1.scopes = r.1.scopes := by
  obtain ⟨l', _ | _⟩ := r <;> rfl
@[simp] theorem keepCurOnError_used (l0 : Live S.V) (r : NRes S α) : (keepCurOnError l0 r).1.used = r.1.used := by
  obtain ⟨l', _ | _⟩ := r <;> rfl
@[simp] theorem keepCurOnError_vars (l0 : Live S.V) (r : NRes S α) : (keepCurOnError l0 r).1.vars = r.1.vars := by
  obtain ⟨l', _ | _⟩ := r <;> rfl
@[simp] theorem keepCurOnError_hooks (l0 : Live S.V) (r : NRes S α) : (keepCurOnError l0 r).1.hooks = r.1.hooks := by
  obtain ⟨l', _ | _⟩ := r <;> rfl
@[simp] theorem keepCurOnError_log (l0 : Live S.V) (r : NRes S α) : (keepCurOnError l0 r).1.log = r.1.log := by
  obtain ⟨l', _ | _⟩ := r <;> rfl
@[simp] theorem keepCurOnError_out (l0 : Live S.V) (r : NRes S α) : (keepCurOnError l0 r).1.out = r.1.out := by
  obtain ⟨l', _ | _⟩ := r <;> rfl
/-- after a failed navigation the position and the `@join` progress are what they were before -/
theorem keepCurOnError_error (l0 : Live S.V) (r : NRes S α) (e : Exc) (h : r.2 = .error e) :
    keepCurOnError l0 r = ({ r.1 with cur := l0.cur, joinIdx := l0.joinIdx }, .error e) := by
  obtain ⟨l', x⟩ := r
  subst h
  rfl
theorem keepCurOnError_ok (l0 : Live S.V) (r : NRes S α) (l' : Live S.V) (o : α) (h : r = (l', .ok o)) :
    keepCurOnError l0 r = (l', .ok o) := by subst h; rfl
theorem keepCurOnError_of_ok (l0 : Live S.V) (r : NRes S α) (l' : Live S.V) (o : α) (h : keepCurOnError l0 r = (l', .ok o)) :
    r = (l', .ok o) := by
  obtain ⟨l1, _ | _⟩ := r
  · cases h
  · exact h
end keepCur

/-! ## passage-level calls change nothing but the render state -/

/-- `l'` differs from `l` at most in the render state -/
def RSOnly (l' l : Live S.V) : Prop := l' = l.withRS l'.rs

namespace RSOnly
variable {a b d : Live S.V}
theorem eq (h : RSOnly a b) : a = b.withRS a.rs := h
theorem trans (h1 : RSOnly a b) (h2 : RSOnly b d) : RSOnly a d :=
  h1.eq.trans (congrArg (Live.withRS · a.rs) h2.eq :)
theorem joinIdx (h : RSOnly a b) : a.joinIdx = b.joinIdx := (congrArg Live.joinIdx h.eq :)
theorem out (h : RSOnly a b) : a.out = b.out := (congrArg Live.out h.eq :)
theorem scopes (h : RSOnly a b) : a.scopes = b.scopes := (congrArg Live.scopes h.eq :)
/-- a relation that ignores the render state holds across a call that changes nothing else -/
theorem rel {Q : Live S.V → Live S.V → Prop} (h : RSOnly a b) (hrs : ∀ l r, Q (l.withRS r) l) : Q a b := by
  rw [h.eq]; exact hrs _ _
end RSOnly

theorem renderPassage_rsOnly (c : ECfg S) (pid : String) (l : Live S.V) :
    RSOnly (renderPassage c pid l).1 l := by
  fun_cases renderPassage c pid l <;> rfl

theorem executePassage_rsOnly (c : ECfg S) (pid : String) (l : Live S.V) :
    RSOnly (executePassage c pid l).1 l := by
  fun_cases executePassage c pid l <;> rfl

theorem renderFromJoinMarker_rsOnly (c : ECfg S) (idx : Nat) (l : Live S.V) :
    RSOnly (renderFromJoinMarker c idx l).1 l := by
  fun_cases renderFromJoinMarker c idx l <;> rfl

theorem runHooks_rsOnly (c : ECfg S) (ps acc : List String) (l : Live S.V) :
    RSOnly (runHooks c ps acc l).1 l := by
  have hx : ∀ {p l l1 r}, executePassage c p { l with log := Ev.hookRun p :: l.log } = (l1, r) → RSOnly l1 l :=
    fun he => (rel_of_eq_fst he (executePassage_rsOnly ..)).trans rfl  -- (`rfl`: the log is part of the render state)
  have hp : ∀ {p l1 l2 r}, renderPassage c p l1 = (l2, r) → RSOnly l2 l1 :=
    fun he => rel_of_eq_fst he (renderPassage_rsOnly ..)
  fun_induction runHooks c ps acc l
  case case1 => rfl
  case case2 ih => exact ih
  case case3 he => exact hx he
  case case4 he _ _ ho => exact (hp ho).trans (hx he)
  case case5 he _ _ ho ih => exact ih.trans ((hp ho).trans (hx he))

theorem triggerEvent_rsOnly (c : ECfg S) (ev : String) (l : Live S.V) :
    RSOnly (triggerEvent c ev l).1 l := by
  unfold triggerEvent
  split
  · rfl
  · exact runHooks_rsOnly c _ _ _

/-! ## the two relations `goto` respects -/

/-- the fields navigation is not allowed to touch -/
structure SameFrame (a b : Live S.V) : Prop where
  scopes : a.scopes = b.scopes
  used : a.used = b.used

theorem SameFrame.refl (a : Live S.V) : SameFrame a a := ⟨rfl, rfl⟩
theorem SameFrame.trans {a b c : Live S.V} (h1 : SameFrame a b) (h2 : SameFrame b c) : SameFrame a c :=
  ⟨h1.scopes.trans h2.scopes, h1.used.trans h2.used⟩
theorem RSOnly.sameFrame {a b : Live S.V} (h : RSOnly a b) : SameFrame a b := h.rel fun _ _ => ⟨rfl, rfl⟩

/-- `a` was reached from `b` without losing the cached output -/
def OutKept (a b : Live S.V) : Prop := b.out.isSome → a.out.isSome

theorem OutKept.refl (a : Live S.V) : OutKept a a := id
theorem OutKept.trans {a b c : Live S.V} (h1 : OutKept a b) (h2 : OutKept b c) : OutKept a c :=
  fun h => h1 (h2 h)
theorem OutKept.of_some (a b : Live S.V) (o : Output S.V) (h : a.out = some o) : OutKept a b :=
  fun _ => by simp [h]
theorem RSOnly.outKept {a b : Live S.V} (h : RSOnly a b) : OutKept a b := h.rel fun _ _ => id

end Bardic
