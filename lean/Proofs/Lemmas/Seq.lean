import Bardic.Engine.Api
/-!
# How the renderer sequences its steps

`_render_content` and its helpers are written as explicit matches on `(state, ok | error)`.  Two
combinators name what those matches do — `RRes.bind` (an error keeps the state reached and stops)
and `seqR` (the same, and a jump stops too) — and each renderer function gets the equation that
shows its matches as these combinators.  A property of rendering then needs one lemma per
combinator instead of a case analysis at every match.  Two membership facts that several properties
share sit next to the functions they are about: `offerChoices_mem`, `mem_dirChoices`.
-/
namespace Bardic
variable {S : Sem}

def RRes.bind {α β} (x : RRes S α) (k : RS S.V → α → RRes S β) : RRes S β :=
  match x with
  | (rs, .error e) => (rs, .error e)
  | (rs, .ok a) => k rs a

theorem RRes.ok_bind {α β} (rs : RS S.V) (a : α) (k : RS S.V → α → RRes S β) :
    RRes.bind (rs, .ok a) k = k rs a := rfl

theorem RRes.bind_ok {α β} {x : RRes S α} {k : RS S.V → α → RRes S β} {b : β}
    (h : (x.bind k).2 = .ok b) : ∃ a, x.2 = .ok a ∧ (k x.1 a).2 = .ok b := by
  rcases x with ⟨rs, e | a⟩
  · cases h
  · exact ⟨a, rfl, h⟩

/-- sequential composition of two renders: the second runs only if the first neither failed nor jumped -/
def seqR (x : RRes S (ROut S.V)) (k : RS S.V → RRes S (ROut S.V)) : RRes S (ROut S.V) :=
  match x with
  | (rs1, .error e) => (rs1, .error e)
  | (rs1, .ok r1) =>
    if r1.jump.isSome then (rs1, .ok r1)
    else match k rs1 with
      | (rs2, .error e) => (rs2, .error e)
      | (rs2, .ok r2) => (rs2, .ok { text := r1.text ++ r2.text, jump := r2.jump, dirs := r1.dirs ++ r2.dirs })

theorem seqR_eq_bind (x : RRes S (ROut S.V)) (k : RS S.V → RRes S (ROut S.V)) :
    seqR x k = x.bind fun rs1 r1 =>
      if r1.jump.isSome then (rs1, .ok r1)
      else (k rs1).bind fun rs2 r2 =>
        (rs2, .ok { text := r1.text ++ r2.text, jump := r2.jump, dirs := r1.dirs ++ r2.dirs }) := by
  rcases x with ⟨rs1, e | r1⟩
  · rfl
  · dsimp only [seqR, RRes.ok_bind]
    cases r1.jump.isSome
    · rcases k rs1 with ⟨rs2, e | r2⟩ <;> rfl
    · rfl

theorem seqR_ok_nojump (rs : RS S.V) (r : ROut S.V) (k : RS S.V → RRes S (ROut S.V)) (h : r.jump = none) :
    seqR (rs, .ok r) k = (k rs).bind fun rs2 r2 =>
      (rs2, .ok { text := r.text ++ r2.text, jump := r2.jump, dirs := r.dirs ++ r2.dirs }) := by
  rw [seqR_eq_bind, RRes.ok_bind, h, Option.isSome_none, if_neg Bool.false_ne_true]

theorem seqR_empty (rs : RS S.V) (k : RS S.V → RRes S (ROut S.V)) : seqR (rs, .ok {}) k = k rs := by
  rw [seqR_ok_nojump _ _ _ rfl]
  rcases k rs with ⟨rs2, e | r2⟩
  · rfl
  · rw [RRes.ok_bind, String.empty_append, List.nil_append]

theorem seqR_nil (x : RRes S (ROut S.V)) : seqR x (fun rs => (rs, .ok {})) = x := by
  rcases x with ⟨rs1, e | ⟨tx, j, d⟩⟩
  · rfl
  · cases j <;> simp [seqR]

theorem seqR_assoc (x : RRes S (ROut S.V)) (k k' : RS S.V → RRes S (ROut S.V)) :
    seqR (seqR x k) k' = seqR x fun rs => seqR (k rs) k' := by
  rcases x with ⟨rs1, e | ⟨t1, _ | j1, d1⟩⟩
  · rfl
  · rw [seqR_ok_nojump _ _ _ rfl, seqR_ok_nojump _ _ _ rfl]
    rcases k rs1 with ⟨rs2, e | ⟨t2, _ | j2, d2⟩⟩
    · rfl
    · rw [RRes.ok_bind, seqR_ok_nojump _ _ _ rfl, seqR_ok_nojump _ _ _ rfl]
      rcases k' rs2 with ⟨rs3, e | r3⟩
      -- (`rfl` is accepted here, but slow in the kernel, which compares the two continuations before it unfolds `bind`)
      · simp only [RRes.bind]
      · simp only [RRes.bind, String.append_assoc, List.append_assoc]
    · rfl
  · rfl

/-! ## the renderer's functions in terms of the combinators -/

theorem renderToks_nil (cfg : RCfg S) (rs : RS S.V) : renderToks S cfg [] rs = (rs, .ok {}) := rfl

theorem renderToks_cons (cfg : RCfg S) (t : Tok) (ts : List Tok) (rs : RS S.V) :
    renderToks S cfg (t :: ts) rs =
      if t.isJoinMarker && cfg.variant == .main then (rs, .ok {})
      else seqR (renderTok S cfg t rs) (renderToks S cfg ts) := by rfl  -- (the term `rfl` has the two sides compared twice)

theorem renderToks_cons_of_noJoin (cfg : RCfg S) {t : Tok} (h : t.isJoinMarker = false) (ts : List Tok)
    (rs : RS S.V) : renderToks S cfg (t :: ts) rs = seqR (renderTok S cfg t rs) (renderToks S cfg ts) := by
  rw [renderToks_cons, h, Bool.false_and, if_neg Bool.false_ne_true]

theorem renderToks_single (cfg : RCfg S) (t : Tok) (rs : RS S.V) (h : t.isJoinMarker = false) :
    renderToks S cfg [t] rs = renderTok S cfg t rs := by
  rw [renderToks_cons_of_noJoin cfg h]; exact seqR_nil _

/-- `_render_content` is compositional: rendering `a ++ b` is rendering `a`, then `b` from the state
reached — unless `a` failed or jumped (main engine: `a` without join markers) -/
theorem renderToks_append (cfg : RCfg S) (b : List Tok) :
    ∀ (a : List Tok) (rs : RS S.V), (∀ t ∈ a, t.isJoinMarker = false) →
      renderToks S cfg (a ++ b) rs = seqR (renderToks S cfg a rs) (renderToks S cfg b) := by
  intro a
  induction a with
  | nil => intro rs _; rw [renderToks_nil, seqR_empty, List.nil_append]
  | cons t ts ih =>
    intro rs hm
    have ih : renderToks S cfg (ts ++ b) = fun rs1 => seqR (renderToks S cfg ts rs1) (renderToks S cfg b) :=
      funext fun rs1 => ih rs1 fun x hx => hm x (List.mem_cons_of_mem _ hx)
    simp only [List.cons_append, renderToks_cons_of_noJoin cfg (hm t List.mem_cons_self), seqR_assoc, ih]

private theorem discard_eq_bind (x : RRes S Unit) :
    (match x with
      | (rs', .ok _) => ((rs', .ok {}) : RRes S (ROut S.V))
      | (rs', .error e) => (rs', .error e)) = x.bind fun rs' _ => (rs', .ok {}) := by
  rcases x with ⟨rs', e | u⟩ <;> rfl

theorem renderTok_stmt (cfg : RCfg S) (code : String) (rs : RS S.V) :
    renderTok S cfg (.stmt code) rs = (execStmt S cfg code rs).bind fun rs' _ => (rs', .ok {}) :=
  discard_eq_bind _

theorem renderTok_pyblock (cfg : RCfg S) (code : String) (rs : RS S.V) :
    renderTok S cfg (.pyblock code) rs = (execBlock S cfg code rs).bind fun rs' _ => (rs', .ok {}) :=
  discard_eq_bind _

/-- an inline conditional shows the text of the branch taken, or an inline marker if that failed -/
def inlineOut (x : RRes S (ROut S.V)) : RRes S (ROut S.V) :=
  (x.1, .ok { text := match x.2 with
    | .ok r => r.text
    | .error e => "{ERROR: inline conditional - " ++ e.msg ++ "}" })

theorem renderTok_inlineCond (cfg : RCfg S) (c : String) (t f : List Tok) (rs : RS S.V) :
    renderTok S cfg (.inlineCond c t f) rs =
      match S.eval (rctx S cfg rs) c with
      | .error e => (rs, .ok { text := "{ERROR: inline conditional - " ++ e.msg ++ "}" })
      | .ok v => if S.truthy v then inlineOut (renderToks S cfg t rs) else inlineOut (renderToks S cfg f rs) := by
  rw [renderTok]
  rcases renderToks S cfg t rs with ⟨rs1, e | r⟩ <;> rcases renderToks S cfg f rs with ⟨rs2, e | r⟩ <;> rfl

/-- the condition of an `@if` branch holds: it evaluates, and to a truthy value -/
def condHolds (S : Sem) (ctx : Env S.V) (c : String) : Bool :=
  match S.eval ctx c with
  | .error _ => false
  | .ok v => S.truthy v

theorem renderBranches_cons (cfg : RCfg S) (c : String) (body : List Tok) (chs : List Choice)
    (bs : List Branch) (rs : RS S.V) :
    renderBranches S cfg (.mk c body chs :: bs) rs =
      if condHolds S (rctx S cfg rs) c then
        (renderToks S cfg body rs).bind fun rs' r =>
          (rs', .ok { r with dirs := r.dirs ++ chs.map (fun c => Dir.choice c none) })
      else renderBranches S cfg bs rs := by
  rw [renderBranches, condHolds]
  rcases S.eval (rctx S cfg rs) c with e | v
  · rfl
  · rcases renderToks S cfg body rs with ⟨rs', e | r⟩ <;> rfl

theorem renderChoiceTexts_cons (cfg : RCfg S) (c : Choice) (cs : List Choice) (rs : RS S.V) :
    renderChoiceTexts S cfg (c :: cs) rs =
      (renderToks S cfg c.text rs).bind fun rs1 r =>
        (renderChoiceTexts S cfg cs rs1).bind fun rs2 ds => (rs2, .ok (Dir.choice c (some r.text) :: ds)) := by
  obtain ⟨text, _, _, _, _, _, _, _⟩ := c
  dsimp only [renderChoiceTexts, Choice.text]
  rcases renderToks S cfg text rs with ⟨rs1, e | r⟩
  · rfl
  · dsimp only [RRes.ok_bind]
    rcases renderChoiceTexts S cfg cs rs1 with ⟨rs2, e | ds⟩ <;> rfl

theorem offerChoices_cons (cfg : RCfg S) (cur : Option String) (used : List String) (secOk : Choice → Bool)
    (x : Choice × Option String × Bool) (rest : List (Choice × Option String × Bool)) (rs : RS S.V) :
    offerChoices cfg cur used secOk (x :: rest) rs =
      (isAvail cfg cur used x.1 x.2.1 rs).bind fun rs1 av =>
        if av && secOk x.1 then
          (renderChoiceText cfg x.1 x.2.1 rs1).bind fun rs2 t =>
            (offerChoices cfg cur used secOk rest rs2).bind fun rs3 os => (rs3, .ok (⟨x.1, t, x.2.2⟩ :: os))
        else offerChoices cfg cur used secOk rest rs1 := by
  dsimp only [offerChoices]
  rcases isAvail cfg cur used x.1 x.2.1 rs with ⟨rs1, e | av⟩
  · rfl
  · dsimp only [RRes.ok_bind]
    cases av && secOk x.1
    · rfl
    · rcases renderChoiceText cfg x.1 x.2.1 rs1 with ⟨rs2, e | t⟩
      · rfl
      · dsimp only [RRes.ok_bind]
        rcases offerChoices cfg cur used secOk rest rs2 with ⟨rs3, e | os⟩ <;> rfl

/-- every choice the filter loop hands out comes from the list it was given, with its block flag, passed the section
test and was available when the loop looked at it -/
theorem offerChoices_mem (cfg : RCfg S) (cur : Option String) (used : List String) (secOk : Choice → Bool)
    (all : List (Choice × Option String × Bool)) (rs : RS S.V) :
    ∀ (rs' : RS S.V) (os : List OChoice), offerChoices cfg cur used secOk all rs = (rs', .ok os) →
      ∀ o ∈ os, ∃ pre rsA rsB, (o.c, pre, o.isBlock) ∈ all ∧ secOk o.c = true ∧
        isAvail cfg cur used o.c pre rsA = (rsB, .ok true) := by
  fun_induction offerChoices cfg cur used secOk all rs with
  | case1 => intro _ _ h o ho; cases h; cases ho
  | case2 | case3 | case4 => intro _ _ h; cases h
  | case5 c pre blk _ rs rs1 av ha hc _ _ _ _ _ ho ih =>
    intro _ _ h o hm
    cases h
    rcases List.mem_cons.mp hm with rfl | hm
    · simp only [Bool.and_eq_true] at hc
      exact ⟨pre, rs, rs1, List.mem_cons_self, hc.2, by rw [ha, hc.1]⟩
    · obtain ⟨p, a1, a2, hx, hr⟩ := ih _ _ ho o hm
      exact ⟨p, a1, a2, List.mem_cons_of_mem _ hx, hr⟩
  | case6 _ _ _ _ _ _ _ _ _ ih =>
    intro _ _ h o hm
    obtain ⟨p, a1, a2, hx, hr⟩ := ih _ _ h o hm
    exact ⟨p, a1, a2, List.mem_cons_of_mem _ hx, hr⟩

/-- the `finally` of one loop pass: variables are put back whatever the outcome -/
def withVars {α} (f : Env S.V → Env S.V) (x : RRes S α) : RRes S α :=
  ({ x.1 with vars := f x.1.vars }, x.2)

/-- one pass of `@for`: the loop variable is bound, body and choices are rendered, and the variable is restored -/
def loopIter (lv : String) (body : RS S.V → RRes S (ROut S.V)) (chs : RS S.V → RRes S (List (Dir S.V)))
    (item : S.V) (rs : RS S.V) : RRes S (ROut S.V) :=
  withVars (loopRestore S (loopAssign S lv item rs.vars).2) <|
    (body { rs with vars := (loopAssign S lv item rs.vars).1 }).bind fun rs2 r =>
      (chs rs2).bind fun rs3 cds => (rs3, .ok { r with dirs := r.dirs ++ cds })

theorem loopItems_cons (lv : String) (body : RS S.V → RRes S (ROut S.V))
    (chs : RS S.V → RRes S (List (Dir S.V))) (item : S.V) (items : List S.V) (rs : RS S.V) :
    loopItems S lv body chs (item :: items) rs =
      seqR (loopIter lv body chs item rs) (loopItems S lv body chs items) := by
  unfold loopItems loopIter
  rcases loopAssign S lv item rs.vars with ⟨vars1, origs⟩
  dsimp only
  rcases body { rs with vars := vars1 } with ⟨rs2, e | r⟩
  · rfl
  · dsimp only [RRes.bind]
    rcases chs rs2 with ⟨rs3, e | cds⟩ <;> rfl

/-- `_render_loop` once the collection has been evaluated: any failure goes to the loop's handler -/
def loopOver (cfg : RCfg S) (lv : String) (body : RS S.V → RRes S (ROut S.V))
    (chs : RS S.V → RRes S (List (Dir S.V))) (coll : Except PyErr (List S.V)) (rs : RS S.V) : RRes S (ROut S.V) :=
  match coll with
  | .error e => loopFail S cfg rs e.msg
  | .ok items =>
    match loopItems S lv body chs items rs with
    | (rs', .ok r) => (rs', .ok r)
    | (rs', .error e) => loopFail S cfg rs' e.msg

theorem renderTok_loop (cfg : RCfg S) (lv coll : String) (body : List Tok) (chs : List Choice) (rs : RS S.V) :
    renderTok S cfg (.loop lv coll body chs) rs =
      if lv == "" || coll == "" then (rs, .ok {})
      else loopOver cfg lv (renderToks S cfg body) (renderChoiceTexts S cfg chs)
        (S.eval (rctx S cfg rs) coll >>= S.iter) rs := by rfl  -- (as in `renderToks_cons`)

/-- the block choices travelling through a directive list, flagged as such -/
theorem mem_dirChoices {V} (ds : List (Dir V)) (x : Choice × Option String × Bool) :
    x ∈ dirChoices ds → Dir.choice x.1 x.2.1 ∈ ds ∧ x.2.2 = true := by
  fun_induction dirChoices ds
  case case1 => exact nofun
  case case2 c pre ds ih =>
    exact fun h => (List.mem_cons.mp h).elim (fun e => e ▸ ⟨List.mem_cons_self, rfl⟩)
      fun h => ⟨List.mem_cons_of_mem _ (ih h).1, (ih h).2⟩
  case case3 ih => exact fun h => ⟨List.mem_cons_of_mem _ (ih h).1, (ih h).2⟩

end Bardic
