import Bardic.Parser.Core
import Proofs.C11
import Proofs.C11b
import Proofs.C17c
/-!
# One specification per function of the text-level parser

Every theorem about `parseText` as a whole — no internal error and no exhausted fuel (C11), a located diagnostic names a
line of the text (C14), a returned story is well-formed (C12) — says which outcomes a parser function can have.  They are
proved together, once: `f_sat` states, for an **arbitrary** set `E` of admitted failures that contains the deliberate ones
(`Deliberate E n`), that `f` fails only within `E` and returns only values with the index bounds the callers need.
The loops carry a fuel argument; their specifications hold when running out of fuel is itself admitted by `E`, or else
under the bound on the fuel that makes it impossible (`Fuel E …`).  The property theorems instantiate `E`:
everything but `Fail.internal` (`Good`, `Proofs/C11d.lean`), everything but `Fail.fuel` (`Ok`), located diagnostics
below `n` only (`Rng`, `Proofs/C14b.lean`), everything (`Post`, `Proofs/C12c.lean`).

The postconditions: a block uses at least one line (`blocks_sat`), passages stay filed under their own id (`KeysOk`,
`coreLoop_sat`), a returned story is well-formed (`Parsed.WF`, `parseLines_sat`).
-/
namespace Bardic.Parser

/-- an error set that admits every deliberate outcome about the first `n` lines of a text: a diagnostic that names one of
them, a diagnostic without location, a question the oracle table does not answer -/
structure Deliberate (E : Fail → Prop) (n : Nat) : Prop where
  located : ∀ {l}, l < n → ∀ c w, E (.diag c (some l) w)
  unlocated : ∀ c w, E (.diag c none w)
  miss : ∀ q, E (.oracleMiss q)

variable {E : Fail → Prop} {n : Nat} {α : Type} {P : α → Prop}

theorem anything_deliberate (n : Nat) : Deliberate (fun _ => True) n :=
  ⟨fun _ _ _ => trivial, fun _ _ => trivial, fun _ => trivial⟩

theorem Deliberate.synErr (hE : Deliberate E n) {i : Nat} (h : i < n) (m : String) : Sat E P (synErr i m) :=
  .err (hE.located h _ _)
theorem Deliberate.synErrNoLoc (hE : Deliberate E n) (m : String) : Sat E P (synErrNoLoc m) := .err (hE.unlocated _ _)
theorem Deliberate.valErr (hE : Deliberate E n) (m : String) : Sat E P (valErr m) := .err (hE.unlocated _ _)

/-- a diagnostic at `loc`: the call with the lines (`some k`) names line `k`, the call without them names none -/
theorem Deliberate.diagAt (hE : Deliberate E n) {loc : Option Nat} (h : ∀ k, loc = some k → k < n) (c w) :
    E (.diag c loc w) := by
  cases loc with
  | none => exact hE.unlocated _ _
  | some k => exact hE.located (h k rfl) _ _

theorem Sat.liftPy {x : PyM α} (what : String) (h : ∃ r, x = .ok r) : Sat E T (liftPy what x) :=
  let ⟨_, hr⟩ := h; hr ▸ .ok trivial

theorem contentToks_sat (hE : Deliberate E n) (line : Line) (loc : Option Nat) (sc : Bool)
    (h : ∀ k, loc = some k → k < n) : Sat E T (contentToks line loc sc) := by
  unfold contentToks
  split
  · exact .ok trivial
  · exact .err (hE.diagAt h _ _)
  · -- the third answer of the tokenizer is `outOfFuel`, which it never gives
    exact absurd ‹_› ((contentLine_fuel _).1 sc line (Nat.lt_succ_self _))

theorem contentLineGlue_sat (hE : Deliberate E n) (line : Line) (loc : Option Nat) (h : ∀ k, loc = some k → k < n) :
    Sat E T (contentLineGlue line loc) := by
  unfold contentLineGlue
  extract_lets line
  split
  · exact contentToks_sat hE _ _ _ h
  · exact Sat.seq (contentToks_sat hE _ _ _ h) fun _ => .ok trivial

theorem parseChoiceLine_sat (hE : Deliberate E n) (line : Line) : Sat E T (parseChoiceLine line) := by
  unfold parseChoiceLine
  dsimp only
  split
  · exact .ok trivial
  · split
    · exact .ok trivial
    · refine Sat.seq (Sat.liftPy _ (extractTargetAndArgs_ok _)) fun p => ?_
      exact Sat.seq (contentToks_sat hE _ none _ nofun) fun _ => .ok trivial

/-- the shape both directive parsers use for a malformed line: a diagnostic at `loc` when called with the lines, else `None` -/
theorem Deliberate.atLoc (hE : Deliberate E n) {loc : Option Nat} (h : ∀ k, loc = some k → k < n) (m : String) :
    Sat E T (match (generalizing := false) loc with | some k => Parser.synErr k m | none => pure none : PM (Option α)) := by
  split
  · exact hE.synErr (h _ rfl) _
  · exact .ok trivial

theorem parseRenderLine_sat (hE : Deliberate E n) (line : Line) (loc : Option Nat) (h : ∀ k, loc = some k → k < n) :
    Sat E T (parseRenderLine line loc) := by
  unfold parseRenderLine
  refine Sat.ite (fun _ => .ok trivial) fun _ => ?_
  refine Sat.seq (P := T) ?_ fun d => ?_
  · refine Sat.ite (fun _ => ?_) fun _ => Sat.ite (fun _ => .ok trivial) fun _ => hE.atLoc h _
    split
    · exact .ok trivial
    · exact hE.atLoc h _
  · split
    · exact .ok trivial
    · split <;> exact .ok trivial

theorem parseInputLine_sat (hE : Deliberate E n) (line : Line) (loc : Option Nat) (h : ∀ k, loc = some k → k < n) :
    Sat E T (parseInputLine line loc) := by
  unfold parseInputLine
  refine Sat.ite (fun _ => .ok trivial) fun _ => ?_
  refine Sat.ite (fun _ => hE.atLoc h _) fun _ => ?_
  extract_lets
  split
  · exact hE.atLoc h _
  · exact .ok trivial

theorem flushPlainToks_sat (hE : Deliberate E n) : ∀ ls : List Line, Sat E T (flushPlainToks ls)
  | [] => .ok trivial
  | l :: r => by
    unfold flushPlainToks
    exact Sat.seq (contentToks_sat hE l none true nofun) fun _ => Sat.seq (flushPlainToks_sat hE r) fun _ => .ok trivial

theorem flushGlueToks_sat (hE : Deliberate E n) : ∀ ls : List Line, Sat E T (flushGlueToks ls)
  | [] => .ok trivial
  | l :: r => by
    unfold flushGlueToks
    exact Sat.seq (contentLineGlue_sat hE l none nofun) fun _ => Sat.seq (flushGlueToks_sat hE r) fun _ => .ok trivial

theorem flushPlain_sat (hE : Deliberate E n) (s : CondSt) : Sat E T s.flushPlain := by
  unfold CondSt.flushPlain
  split
  · exact .ok trivial
  · exact Sat.ite (fun _ => .ok trivial) fun _ => Sat.seq (flushPlainToks_sat hE _) fun _ => .ok trivial

theorem finalize_sat (hE : Deliberate E n) (s : CondSt) : Sat E T s.finalize := by
  unfold CondSt.finalize
  split
  · exact .ok trivial
  · dsimp only
    exact Sat.ite (fun _ => .ok trivial) fun _ => Sat.seq (flushGlueToks_sat hE _) fun _ => .ok trivial

theorem condHeader_sat (hE : Deliberate E n) (st : Line) (kw : String) {i : Nat} (h : i < n) :
    Sat E T (condHeader st kw i) := by
  unfold condHeader
  refine Sat.ite (fun _ => ?_) fun _ => ?_ <;> split <;> first | exact .ok trivial | exact hE.synErr h _

theorem loopHeader_sat (hE : Deliberate E n) (st : Line) {i : Nat} (h : i < n) : Sat E T (loopHeader st i) := by
  unfold loopHeader
  refine Sat.ite (fun _ => ?_) fun _ => ?_ <;> split <;> first | exact .ok trivial | exact hE.synErr h _

theorem dedent_length (ls : List Line) : (dedent ls).length = ls.length := by
  unfold dedent; split <;> exact List.length_map _

/-- `extract_python_block` on a line of the text: a block or a diagnostic at that line; a block uses at least one line -/
theorem extractPythonBlock_sat (hE : Deliberate E n) (lines : Lines) (start : Nat) (h : start < lines.size)
    (hn : lines.size ≤ n) : Sat E (fun r => 1 ≤ r.2) (extractPythonBlock lines start) := by
  unfold extractPythonBlock
  rw [dif_pos h]
  refine Sat.ite (fun _ => ?_) fun _ => Sat.ite (fun _ => ?_) fun _ => hE.valErr _
  · exact .ok (Nat.le_of_succ_le (pyOld_consumed lines.toList start h).1)
  · obtain ⟨r, hr, hc⟩ := pyNew_ok lines.toList start h
    rw [hr]
    cases r with
    | error d => exact hE.synErr (Nat.lt_of_lt_of_le h hn) _
    | ok p => exact .ok (Nat.le_of_succ_le (hc p.1 p.2 rfl).1)

/-- a multi-line statement starting on a line of the text uses at least that line and ends inside the text -/
theorem multiline_sat (what : String) (lines : Lines) (start : Nat) (init : Line) (h : start < lines.size) :
    Sat E (fun r => 1 ≤ r.2 ∧ start + r.2 ≤ lines.size) (liftPy what (multiline lines.toList start init)) := by
  obtain ⟨e, k, he, h1, h2⟩ := multiline_ok lines.toList start init
  rw [Array.length_toList, Nat.max_eq_right (Nat.sub_pos_of_lt h)] at h2
  rw [he]
  exact .ok ⟨h1, Nat.add_le_of_le_sub' (Nat.le_of_lt h) h2⟩

/-- enough fuel for a loop — or running out of it is an outcome that `E` admits (then nothing has to be shown about it) -/
abbrev Fuel (E : Fail → Prop) (enough : Prop) : Prop := E .fuel ∨ enough

theorem Fuel.admitted {enough : Prop} (h : E .fuel) : Fuel E enough := .inl h
theorem Fuel.bound {enough : Prop} (h : enough) : Fuel E enough := .inr h

/-- phase 1 of the loop extractor: no more lines are collected than remain, and the index only moves forward -/
theorem loopCollect_sat (hE : Deliberate E n) (lines : Lines) (hn : lines.size ≤ n) :
    ∀ (f i depth : Nat) (acc : List Line), Fuel E (lines.size - i + 1 ≤ f) →
      Sat E (fun r => r.1.length ≤ acc.length + (lines.size - i) ∧ i ≤ r.2.1) (loopCollect lines f i depth acc)
  | 0, _, _, _, hf => .err (hf.elim id nofun)
  | f + 1, i, depth, acc, hf => by
    unfold loopCollect
    refine Sat.dite (fun hi => ?_) fun _ => .ok ⟨Nat.le_add_right_of_le (Nat.le_of_eq List.length_reverse), Nat.le_refl _⟩
    have less := Nat.sub_succ_lt_self _ _ hi
    have next : ∀ d, Sat E (fun r => r.1.length ≤ acc.length + (lines.size - i) ∧ i ≤ r.2.1)
        (loopCollect lines f (i + 1) d (lines[i] :: acc)) := fun d =>
      (loopCollect_sat hE lines hn f (i + 1) d _ (hf.imp_right fun h => Nat.le_trans less (Nat.le_of_succ_le_succ h))).post
        fun r hr => by simp only [List.length_cons] at hr; omega
    refine Sat.ite (fun _ => hE.synErr (Nat.lt_of_lt_of_le hi hn) _) fun _ => Sat.ite (fun _ => next _) fun _ => ?_
    refine Sat.ite (fun _ => Sat.ite (fun _ => ?_) fun _ => next _) fun _ => next _
    exact .ok ⟨Nat.le_add_right_of_le (Nat.le_of_eq List.length_reverse), Nat.le_succ _⟩

/-- three units of fuel per remaining line: with fewer lines left (`a' < a`) the bound holds again, the unit just spent
included -/
theorem fuel_step {a a' c f : Nat} (ha : a' < a) (h : 3 * a + (c + 1) ≤ f + 1) : 3 * a' + 3 ≤ f :=
  Nat.le_trans (Nat.mul_le_mul_left 3 ha) (Nat.le_of_add_right_le (Nat.le_of_succ_le_succ h))

/-- the fuel bound of the conditional loop survives a step of `k ≥ 1` lines: behind the opening line the bound is
`3·(remaining lines) + 3` (of the minimum with 1 only `≤ 1` is used), and a step frees three units per line -/
theorem condFuel_step {size start i f k : Nat} (hi : i < size) (hk : 1 ≤ k)
    (h : 3 * (size - i) + 1 + 2 * min (i - start) 1 ≤ f + 1) :
    3 * (size - (i + k)) + 1 + 2 * min (i + k - start) 1 ≤ f :=
  Nat.le_trans (Nat.add_le_add_left (Nat.mul_le_mul_left 2 (Nat.min_le_right ..)) _)
    (fuel_step (Nat.sub_lt_sub_left hi (Nat.lt_add_of_pos_right hk)) (Nat.le_of_add_right_le h))

/-- what `blocks_sat` says of the four functions at fuel `f` -/
structure BlocksSpec (E : Fail → Prop) (n f : Nat) : Prop where
  condLoop : ∀ (lines : Lines) (start i : Nat) (s : CondSt), lines.size ≤ n →
    Fuel E (start ≤ i ∧ (i = start → s.cur = none) ∧ 3 * (lines.size - i) + 1 + 2 * min (i - start) 1 ≤ f) →
    Sat E (fun r => r.2.2 = true → i < r.2.1) (Parser.condLoop lines start f i s)
  extractCond : ∀ (lines : Lines) (start : Nat), lines.size ≤ n → start < n → Fuel E (3 * (lines.size - start) + 2 ≤ f) →
    Sat E (fun r => 1 ≤ r.2) (Parser.extractCond lines f start)
  loopBody : ∀ (al : Lines) (bs j : Nat) (c : List J) (ch : Option (List J)), al.size ≤ n →
    Fuel E (3 * (al.size - (bs + j)) + 3 ≤ f) → Sat E T (Parser.loopBody al bs f j c ch)
  extractLoop : ∀ (lines : Lines) (start : Nat), lines.size ≤ n → start < n → Fuel E (3 * (lines.size - start) + 2 ≤ f) →
    Sat E (fun r => 1 ≤ r.2) (Parser.extractLoop lines f start)

/-- **the four mutually recursive block extractors**, by induction on the fuel.  A block uses at least one line; the
conditional loop, when it finds its closer, has moved past the line it started on.  Fuel: three units per remaining line
are enough — one per iteration, two handed down to a nested extractor (`extractCond` / `extractLoop` spend one on
themselves and start their loop with the rest: `+ 2`, `+ 1`).  That only adds up because a nested extractor starts strictly
behind its parent's opening line (`i != start` in the Python code; a nested loop needs an open branch, which the opening
line does not have yet): on the opening line the loop has `3·(remaining) + 1`, behind it `3·(remaining) + 3` — the `min`. -/
theorem blocks_sat (hE : Deliberate E n) : ∀ f : Nat, BlocksSpec E n f := by
  intro f
  induction f with
  | zero =>
    exact ⟨fun _ _ _ _ _ hf => .err (hf.elim id (by omega)), fun _ _ _ _ hf => .err (hf.elim id nofun),
      fun _ _ _ _ _ _ hf => .err (hf.elim id nofun), fun _ _ _ _ hf => .err (hf.elim id nofun)⟩
  | succ f ih =>
    obtain ⟨ihC, ihEC, ihB, ihEL⟩ := ih
    refine ⟨?_, ?_, ?_, ?_⟩
    · intro lines start i s hn hf
      unfold condLoop
      refine Sat.dite (fun hi => ?_) fun _ => .ok nofun
      have hin : i < n := Nat.lt_of_lt_of_le hi hn
      have next : ∀ (k : Nat) (s' : CondSt), 1 ≤ k →
          Sat E (fun r => r.2.2 = true → i < r.2.1) (condLoop lines start f (i + k) s') := fun k s' hk =>
        (ihC lines start (i + k) s' hn (hf.imp_right fun h => ⟨Nat.le_trans h.1 (Nat.le_add_right _ _),
          fun e => absurd e (Nat.ne_of_gt (Nat.lt_of_le_of_lt h.1 (Nat.lt_add_of_pos_right hk))),
          condFuel_step hi hk h.2.2⟩)).post fun r hr hfd => Nat.lt_of_le_of_lt (Nat.le_add_right i k) (hr hfd)
      -- a nested extractor gets two units less; it is never called on the opening line with no branch open
      have nested : (i = start → s.cur = none → False) → Fuel E (3 * (lines.size - i) + 2 ≤ f) := fun hne =>
        hf.imp_right fun h => by
          rw [Nat.min_eq_right (Nat.sub_pos_of_lt (Nat.lt_of_le_of_ne h.1 fun e => hne e.symm (h.2.1 e.symm)))] at h
          exact Nat.le_of_succ_le_succ h.2.2
      have flush := flushPlain_sat hE
      have one := Nat.le_refl 1
      -- the line, its stripped form and "a branch is open" get names (the model's `match … with | line, st, has =>`)
      generalize hhas : s.cur.isSome = has
      generalize stripL lines[i] = st
      generalize lines[i] = line
      -- one `Sat.ite` per branch of the Python `if` chain, in its order: comment, Python block, `@input`, `@render`,
      -- `@hook`, `@unhook`, `~` statement, nested `@if`, nested `@for`, the opening line, `@endif:`, closer, `@elif`,
      -- `@else`, jump, choice or text
      refine Sat.ite (fun _ => next 1 _ one) fun _ => ?_
      refine Sat.ite (fun _ => Sat.seq (flush _) fun _ =>
        (extractPythonBlock_sat hE lines i hi hn).bind fun r hk => next r.2 _ hk) fun _ => ?_
      refine Sat.ite (fun _ => Sat.seq (flush _) fun _ =>
        Sat.seq (parseInputLine_sat hE _ none nofun) fun _ => next 1 _ one) fun _ => ?_
      refine Sat.ite (fun _ => Sat.seq (flush _) fun _ =>
        Sat.seq (parseRenderLine_sat hE _ none nofun) fun _ => next 1 _ one) fun _ => ?_
      refine Sat.ite (fun _ => Sat.seq (flush _) fun _ => next 1 _ one) fun _ => ?_
      refine Sat.ite (fun _ => Sat.seq (flush _) fun _ => next 1 _ one) fun _ => ?_
      refine Sat.ite (fun _ => Sat.seq (flush _) fun _ =>
        (multiline_sat _ lines i _ hi).bind fun r hk => next r.2 _ hk.1) fun _ => ?_
      refine Sat.ite (fun hc => ?_) fun _ => Sat.ite (fun hc => ?_) fun _ => ?_
      · -- a nested conditional: never at the opening line itself
        exact Sat.seq (flush _) fun _ => (ihEC lines i hn hin (nested fun h _ => by
          simp only [h, bne_self_eq_false, Bool.and_false, Bool.false_and, Bool.false_eq_true] at hc)).bind
            fun r hk => next r.2 _ hk
      · -- a nested loop: only with a branch open, which the opening line does not have yet
        have hopen : s.cur = none → False := fun h => by
          simp only [← hhas, h, Option.isSome_none, Bool.and_false, Bool.false_eq_true] at hc
        exact Sat.seq (flush _) fun _ =>
          (ihEL lines i hn hin (nested fun _ => hopen)).bind fun r hk => next r.2 _ hk
      refine Sat.ite (fun _ => Sat.seq (condHeader_sat hE _ _ hin) fun _ => next 1 _ one) fun _ => ?_
      refine Sat.ite (fun _ => hE.synErr hin _) fun _ => ?_
      refine Sat.ite (fun _ => Sat.seq (finalize_sat hE _) fun _ => .ok fun _ => Nat.lt_succ_self i) fun _ => ?_
      refine Sat.ite (fun _ => Sat.seq (condHeader_sat hE _ _ hin) fun _ =>
        Sat.seq (finalize_sat hE _) fun _ => next 1 _ one) fun _ => ?_
      refine Sat.ite (fun _ => Sat.ite (fun _ => hE.synErr hin _) fun _ =>
        Sat.seq (finalize_sat hE _) fun _ => next 1 _ one) fun _ => ?_
      refine Sat.ite (fun _ => ?_) fun _ => ?_
      · split
        · exact Sat.ite (fun _ => Sat.seq (flush _) fun _ => next 1 _ one) fun _ => next 1 _ one
        · exact next 1 _ one
      · extract_lets rest
        have hrest : ∀ ch, Sat E (fun r => r.2.2 = true → i < r.2.1) (rest ch) := fun ch => by
          cases ch with
          | some c => exact Sat.seq (flush _) fun _ => next 1 _ one
          | none => exact next 1 _ one
        exact Sat.ite (fun _ => Sat.seq (parseChoiceLine_sat hE _) hrest) fun _ => Sat.pure_bind (hrest none)
    · intro lines start hn hs hf
      unfold extractCond
      refine (ihC lines start start {} hn (hf.imp_right fun h =>
        ⟨Nat.le_refl _, fun _ => rfl, Nat.sub_self start ▸ Nat.le_of_succ_le_succ h⟩)).bind fun r hr => ?_
      obtain ⟨s, i, _ | _⟩ := r
      · exact hE.synErr hs _
      · exact .ok (Nat.sub_pos_of_lt (hr rfl))
    · intro al bs j c ch hn hf
      unfold loopBody
      refine Sat.dite (fun hi => ?_) fun _ => .ok trivial
      have hin : bs + j < n := Nat.lt_of_lt_of_le hi hn
      have next : ∀ (k : Nat) (c' : List J) (ch' : Option (List J)), 1 ≤ k → Sat E T (loopBody al bs f (j + k) c' ch') :=
        fun k c' ch' hk => ihB al bs (j + k) c' ch' hn (hf.imp_right
          (fuel_step (Nat.sub_lt_sub_left hi (Nat.add_lt_add_left (Nat.lt_add_of_pos_right hk) bs))))
      have nested : Fuel E (3 * (al.size - (bs + j)) + 2 ≤ f) := hf.imp_right Nat.le_of_succ_le_succ
      have one := Nat.le_refl 1
      generalize stripL al[bs + j] = st
      generalize al[bs + j] = line
      refine Sat.ite (fun _ => next 1 _ _ one) fun _ => ?_
      refine Sat.ite (fun _ => (extractPythonBlock_sat hE al _ hi hn).bind fun r hk => next r.2 _ _ hk) fun _ => ?_
      refine Sat.ite (fun _ => Sat.seq (parseInputLine_sat hE _ none nofun) fun _ => next 1 _ _ one) fun _ => ?_
      refine Sat.ite (fun _ => Sat.seq (parseRenderLine_sat hE _ none nofun) fun _ => next 1 _ _ one) fun _ => ?_
      refine Sat.ite (fun _ => next 1 _ _ one) fun _ => Sat.ite (fun _ => next 1 _ _ one) fun _ => ?_
      refine Sat.ite (fun _ => (multiline_sat _ al _ _ hi).bind fun r hk => next r.2 _ _ hk.1) fun _ => ?_
      refine Sat.ite (fun _ => (ihEL al _ hn hin nested).bind fun r hk => next r.2 _ _ hk) fun _ => ?_
      refine Sat.ite (fun _ => (ihEC al _ hn hin nested).bind fun r hk => next r.2 _ _ hk) fun _ => ?_
      refine Sat.ite (fun _ => by split <;> exact next 1 _ _ one) fun _ => ?_
      extract_lets rest
      have hrest : ∀ x, Sat E T (rest x) := fun x => by
        cases x with
        | some c => exact next 1 _ _ one
        | none => exact Sat.seq (contentLineGlue_sat hE _ none nofun) fun _ => next 1 _ _ one
      exact Sat.ite (fun _ => Sat.seq (parseChoiceLine_sat hE _) hrest) fun _ => Sat.pure_bind (hrest none)
    · intro lines start hn hs hf
      unfold extractLoop
      refine Sat.dite (fun hi => ?_) fun _ => hE.synErr hs _
      refine Sat.seq (loopHeader_sat hE _ hs) fun _ => ?_
      refine (loopCollect_sat hE lines hn f (start + 1) 1 [] (hf.imp_right (by omega))).bind fun r hr => ?_
      -- the body is parsed from a copy of the text in which it is re-indented: that copy is never longer than the text
      have hsize : (lines.extract 0 (start + 1) ++ (dedent r.1).toArray).size ≤ lines.size := by
        have := hr.1
        simp only [List.length_nil, Nat.zero_add] at this
        simp only [Array.size_append, Array.size_extract, List.size_toArray, dedent_length, Nat.min_eq_left hi, Nat.sub_zero]
        exact Nat.add_le_of_le_sub' hi this
      dsimp -zeta only
      extract_lets rest
      have hrest : ∀ x, Sat E (fun r => 1 ≤ r.2) (rest x) := fun _ =>
        Sat.ite (fun _ => hE.synErr hs _) fun _ => .ok (Nat.sub_pos_of_lt hr.2)
      exact Sat.ite (fun _ => Sat.pure_bind (hrest _)) fun _ => Sat.seq (ihB _ _ _ _ _ (Nat.le_trans hsize hn) (hf.imp_right
        (fuel_step (Nat.lt_of_le_of_lt (Nat.sub_le_sub_right hsize _) (Nat.sub_succ_lt_self _ _ hi))))) hrest

theorem joinCollect_spec (lines : Lines) (indent : Nat) : ∀ (f i : Nat) (acc : List Line),
    (joinCollect lines indent f i acc).1.length = acc.length + ((joinCollect lines indent f i acc).2 - i) ∧
    i ≤ (joinCollect lines indent f i acc).2 ∧ (joinCollect lines indent f i acc).2 ≤ max i lines.size := by
  intro f i acc
  -- the loop stops where it stands …
  have stop : ∀ i (acc : List Line), acc.reverse.length = acc.length + (i - i) ∧ i ≤ i ∧ i ≤ max i lines.size := fun i acc =>
    ⟨by rw [List.length_reverse, Nat.sub_self, Nat.add_zero], Nat.le_refl _, Nat.le_max_left _ _⟩
  -- … or takes the line and goes on
  have step : ∀ {i : Nat} {acc : List Line} {line : Line} {r : List Line × Nat}, i < lines.size →
      (r.1.length = (line :: acc).length + (r.2 - (i + 1)) ∧ i + 1 ≤ r.2 ∧ r.2 ≤ max (i + 1) lines.size) →
      r.1.length = acc.length + (r.2 - i) ∧ i ≤ r.2 ∧ r.2 ≤ max i lines.size := fun hi h => by
    simp only [List.length_cons, Nat.max_eq_right hi] at h
    omega -splitMinMax
  fun_induction joinCollect lines indent f i acc with
  | case1 i acc => exact stop i acc
  | case2 f i acc hi line ht => exact stop i acc
  | case3 f i acc hi line ht hb ih => exact step hi ih
  | case4 f i acc hi line ht hb hind => exact stop i acc
  | case5 f i acc hi line ht hb hind ih => exact step hi ih
  | case6 f i acc hi => exact stop i acc

/-- line `j` of the block is line `start + j` of the text -/
theorem joinParse_sat (hE : Deliberate E n) (start : Nat) : ∀ (ls : List Line) (j : Nat), start + j + ls.length ≤ n →
    Sat E T (joinParse start j ls)
  | [], _, _ => .ok trivial
  | line :: rest, j, h => by
    unfold joinParse
    simp only [List.length_cons] at h
    extract_lets st more
    have hmore : ∀ x, Sat E T (more x) := fun _ =>
      Sat.seq (joinParse_sat hE start rest (j + 1) (le_of_eq_of_le (Nat.succ_add ..) h)) fun _ => .ok trivial
    clear_value more
    iterate 5 (refine Sat.ite (fun _ => Sat.pure_bind (hmore _)) fun _ => ?_)
    exact Sat.seq (contentToks_sat hE line (some (start + j)) true fun k hk => by cases hk; omega) fun _ =>
      Sat.pure_bind (hmore _)

theorem extractJoinBlock_sat (hE : Deliberate E n) (lines : Lines) (start indent : Nat) (hn : lines.size ≤ n) :
    Sat E T (extractJoinBlock lines start indent) := by
  unfold extractJoinBlock
  have hs := joinCollect_spec lines indent (lines.size + 1) start []
  generalize joinCollect lines indent (lines.size + 1) start [] = r at hs
  obtain ⟨block, i⟩ := r
  simp only [List.length_nil] at hs
  refine Sat.ite (fun _ => .ok trivial) fun hne => ?_
  have hpos : 0 < block.length := List.length_pos_iff.mpr (mt List.isEmpty_iff.mpr hne)
  exact Sat.seq (joinParse_sat hE start _ 0 (by rw [dedent_length]; omega)) fun _ => .ok trivial

def KeysOk (ps : List (Line × PPassage)) : Prop := ∀ kv ∈ ps, kv.2.id = kv.1

theorem KeysOk_modCur (s : PSt) (hk : KeysOk s.passages) (f : PPassage → PPassage) (hf : ∀ p, (f p).id = p.id) :
    KeysOk (s.modCur f).passages := by
  unfold PSt.modCur
  split
  · exact hk
  · refine List.forall_mem_map.mpr fun x hx => ?_
    split
    · simp only [hf]; exact hk x hx
    · exact hk x hx

theorem KeysOk_dictSet (d : List (Line × PPassage)) (hk : KeysOk d) (k : Line) (v : PPassage) (hv : v.id = k) :
    KeysOk (dictSet d k v) := by
  unfold dictSet
  cases d.any (·.1 == k)
  · exact List.forall_mem_append.mpr ⟨hk, List.forall_mem_singleton.mpr hv⟩
  · refine List.forall_mem_map.mpr fun x hx => ?_
    split
    · exact hv
    · exact hk x hx

/-- a header line: the new passage is filed under its own id -/
theorem headerLine_sat (hE : Deliberate E n) (O : PyOracle) (line : Line) {i : Nat} (hi : i < n) (s : PSt) :
    Sat E (fun s' => KeysOk s.passages → KeysOk s'.passages) (headerLine O line i s) := by
  unfold headerLine
  refine Sat.seq (Sat.liftPy _ (extractPassageParams_ok _)) fun p => ?_
  obtain ⟨nameWithTags, paramsStr⟩ := p
  generalize parseTags nameWithTags = nt
  refine Sat.seq (Sat.liftPy _ (validatePassageName_ok _ _ _)) fun v => ?_
  extract_lets locs store afterName
  have hstore : ∀ ps, Sat E (fun s' => KeysOk s.passages → KeysOk s'.passages) (store ps) :=
    fun ps => .ok fun h => KeysOk_dictSet _ h _ _ rfl
  have hafter : Sat E (fun s' => KeysOk s.passages → KeysOk s'.passages) (afterName ()) := by
    refine Sat.ite (fun _ => Sat.pure_bind (hstore _)) fun _ =>
      Sat.seq (Sat.liftPy _ (parsePassageParams_ok _ _)) fun r => ?_
    split
    · exact Sat.pure_bind (hstore _)
    · exact .err (hE.miss _)
    · exact hE.synErr hi _
  cases v with
  | some _ => exact hE.synErr hi _
  | none => exact hafter

theorem topChoice_sat (hE : Deliberate E n) (lines : Lines) {i : Nat} (hi : i < n) (hn : lines.size ≤ n) (line : Line)
    (sec : Nat) : Sat E T (topChoice lines i line sec) := by
  unfold topChoice
  refine Sat.seq (Sat.liftPy _ (validateChoice_ok _)) fun v => ?_
  cases v with
  | some _ => exact hE.synErr hi _
  | none =>
    refine Sat.seq (parseChoiceLine_sat hE _) fun ch => ?_
    cases ch with
    | none => exact hE.synErr hi _
    | some ch =>
      exact Sat.ite (fun _ => Sat.seq (extractJoinBlock_sat hE lines _ _ hn) fun _ => .ok trivial) fun _ => .ok trivial

theorem splitColon_some (s : Line) (hc : s.contains ':' = true) (hn : splitColon s = none) : False :=
  splitFirstL_some_of_mem ':' s (List.contains_iff_mem.mp hc) hn

/-- **the line classifier**: every iteration moves on by at least one line (three units of fuel per remaining line, and
three to spare, are enough — two are handed down to a block extractor); every located diagnostic is admitted because it names the line the loop stands on, or a
line of the multi-line statement that starts there; every passage stays filed under its own id.  The one `internal`
written in the loop itself, `key, value = stripped.split(":", 1)`, is unreachable behind its guard `":" in stripped`. -/
theorem coreLoop_sat (hE : Deliberate E n) (O : PyOracle) (lines : Lines) (hn : lines.size ≤ n) :
    ∀ (f i : Nat) (s : PSt), Fuel E (3 * (lines.size - i) + 3 ≤ f) →
      Sat E (fun s' => KeysOk s.passages → KeysOk s'.passages) (coreLoop O lines f i s) := by
  intro f i s hf
  induction f generalizing i s with
  | zero => exact .err (hf.elim id nofun)
  | succ f ih =>
    unfold coreLoop
    refine Sat.dite (fun hi => ?_) fun _ => .ok id
    have hin : i < n := Nat.lt_of_lt_of_le hi hn
    have next : ∀ (k : Nat) (s' : PSt), 1 ≤ k → (KeysOk s.passages → KeysOk s'.passages) →
        Sat E (fun s' => KeysOk s.passages → KeysOk s'.passages) (coreLoop O lines f (i + k) s') := fun k s' hk hs =>
      (ih (i + k) s' (hf.imp_right (fuel_step (Nat.sub_lt_sub_left hi (Nat.lt_add_of_pos_right hk))))).post fun _ h a => h (hs a)
    have nested : Fuel E (3 * (lines.size - i) + 2 ≤ f) := hf.imp_right Nat.le_of_succ_le_succ
    have one := Nat.le_refl 1
    have here : ∀ k, some i = some k → k < n := fun _ h => Option.some.inj h ▸ hin
    generalize stripL lines[i] = st
    generalize lines[i] = line
    dsimp -zeta only
    -- one `Sat.ite` per branch of `_parse_source`, in its order: the imports section (blank / comment, import line),
    -- `@metadata` and its lines, `@start`, a header; then inside a passage: comment, Python block, `@if`, `@for`,
    -- `@render`, `@input`, `@hook`, `@unhook`, `@join`, jump, `~` statement, choice, text, blank
    refine Sat.ite (fun _ => next 1 _ one id) fun _ => Sat.ite (fun _ => ?_) fun _ => ?_
    · split
      · exact next 1 _ one id
      · exact .err (hE.miss _)
      · exact hE.synErr hin _
    extract_lets s1 s2
    refine Sat.ite (fun _ => next 1 _ one id) fun _ => Sat.ite (fun _ => next 1 _ one id) fun _ =>
      Sat.ite (fun hmeta => ?_) fun _ => ?_
    · split
      · exact next 1 _ one id
      · simp only [Bool.and_eq_true] at hmeta
        exact (splitColon_some _ hmeta.2 ‹_›).elim
    -- from here on the state changes only inside the current passage, whose id stays
    have mod : ∀ g : PPassage → PPassage, (∀ p, (g p).id = p.id) → KeysOk s.passages → KeysOk (s2.modCur g).passages :=
      fun g hg h => KeysOk_modCur s2 h g hg
    refine Sat.ite (fun _ => next 1 _ one id) fun _ =>
      Sat.ite (fun _ => (headerLine_sat hE O line hin s2).bind fun s' hs' => next 1 s' one hs') fun _ => ?_
    split
    · exact next 1 _ one id
    refine Sat.ite (fun _ => next 1 _ one id) fun _ => ?_
    refine Sat.ite (fun _ => (extractPythonBlock_sat hE lines i hi hn).bind fun r hr =>
      next r.2 _ hr (mod _ fun _ => rfl)) fun _ => ?_
    refine Sat.ite (fun _ => ((blocks_sat hE f).extractCond lines i hn hin nested).bind fun r hr =>
      next r.2 _ hr (mod _ fun _ => rfl)) fun _ => ?_
    refine Sat.ite (fun _ => ((blocks_sat hE f).extractLoop lines i hn hin nested).bind fun r hr =>
      next r.2 _ hr (mod _ fun _ => rfl)) fun _ => ?_
    refine Sat.ite (fun _ => Sat.seq (parseRenderLine_sat hE _ (some i) here) fun d =>
      next 1 _ one (by cases d with | none => exact id | some _ => exact mod _ fun _ => rfl)) fun _ => ?_
    refine Sat.ite (fun _ => Sat.seq (parseInputLine_sat hE _ (some i) here) fun d =>
      next 1 _ one (by cases d with | none => exact id | some _ => exact mod _ fun _ => rfl)) fun _ => ?_
    refine Sat.ite (fun _ => ?_) fun _ => Sat.ite (fun _ => ?_) fun _ => ?_
    · split
      · exact next 1 _ one (mod _ fun _ => rfl)
      · exact hE.synErr hin _
    · split
      · exact next 1 _ one (mod _ fun _ => rfl)
      · exact hE.synErr hin _
    refine Sat.ite (fun _ => next 1 _ one (mod _ fun _ => rfl)) fun _ => Sat.ite (fun _ => ?_) fun _ => ?_
    · split
      · exact Sat.seq (Sat.liftPy _ (extractTargetAndArgs_ok _)) fun _ =>
          next 1 _ one (mod _ fun _ => rfl)
      · exact next 1 _ one id
    refine Sat.ite (fun _ => (multiline_sat _ lines i _ hi).bind fun r hr => ?_) fun _ => ?_
    · -- a statement: Python's verdict on it; a syntax error is reported on one of the statement's own lines
      split
      · exact next r.2 _ hr.1 (mod _ fun _ => rfl)
      · refine hE.synErr (Nat.lt_of_lt_of_le ?_ hn) _
        split <;> omega -splitMinMax
      · exact hE.synErr hin _
      · exact .err (hE.miss _)
    refine Sat.ite (fun _ => Sat.seq (topChoice_sat hE lines hin hn _ _) fun r =>
      next (r.2 + 1) _ (Nat.le_add_left _ _) (mod _ fun _ => rfl)) fun _ => ?_
    exact Sat.ite (fun _ => Sat.seq (contentLineGlue_sat hE _ (some i) here) fun _ =>
      next 1 _ one (mod _ fun _ => rfl)) fun _ => next 1 _ one (mod _ fun _ => rfl)

/-- the argument validator's diagnostics carry no location -/
theorem validateCall_sat (hE : Deliberate E n) (O : PyOracle) (ps : List (Line × PPassage)) (t a : Line) :
    Sat E T (validateCall O ps t a) := by
  unfold validateCall
  refine Sat.ite (fun _ => .ok trivial) fun _ => ?_
  split
  · exact hE.synErrNoLoc _
  · extract_lets params
    refine Sat.ite (fun _ => Sat.ite (fun _ => hE.synErrNoLoc _) fun _ => .ok trivial) fun _ => ?_
    split
    · exact .err (hE.miss _)
    · exact hE.synErrNoLoc _
    · exact hE.synErrNoLoc _
    · extract_lets
      refine Sat.ite (fun _ => hE.synErrNoLoc _) fun _ => Sat.ite (fun _ => hE.synErrNoLoc _) fun _ => ?_
      exact Sat.ite (fun _ => hE.synErrNoLoc _) fun _ => Sat.ite (fun _ => hE.synErrNoLoc _) fun _ => .ok trivial

/-- what the validator has accepted when it returns: every choice's call -/
theorem validateChoices_sat (hE : Deliberate E n) (O : PyOracle) (ps : List (Line × PPassage)) : ∀ l,
    Sat E (fun _ => ∀ ch ∈ l, validateCall O ps ((jGetStr ch "target").getD []) ((jGetStr ch "args").getD []) = .ok ())
      (validateChoices O ps l)
  | [] => .ok (List.forall_mem_nil _)
  | _ :: r => (validateCall_sat hE O ps _ _).self.bind fun _ h =>
      (validateChoices_sat hE O ps r).post fun _ hr => List.forall_mem_cons.mpr ⟨h, hr⟩

theorem validateJumps_sat (hE : Deliberate E n) (O : PyOracle) (ps : List (Line × PPassage)) :
    ∀ l, Sat E T (validateJumps O ps l)
  | [] => .ok trivial
  | t :: r => by
    unfold validateJumps
    have ih := validateJumps_sat hE O ps r
    exact Sat.ite (fun _ => Sat.ite (fun _ => hE.synErrNoLoc _) fun _ => Sat.seq (validateCall_sat hE O ps _ _) fun _ => ih)
      fun _ => ih

theorem validateArgs_sat (hE : Deliberate E n) (O : PyOracle) (ps : List (Line × PPassage)) : ∀ l,
    Sat E (fun _ => ∀ kv ∈ l, ∀ ch ∈ kv.2.choices,
        validateCall O ps ((jGetStr ch "target").getD []) ((jGetStr ch "args").getD []) = .ok ()) (validateArgs O ps l)
  | [] => .ok (List.forall_mem_nil _)
  | _ :: r => (validateChoices_sat hE O ps _).bind fun _ h => Sat.seq (validateJumps_sat hE O ps _) fun _ =>
      (validateArgs_sat hE O ps r).post fun _ hr => List.forall_mem_cons.mpr ⟨h, hr⟩

theorem lookup_of_any (ps : List (Line × PPassage)) (t : Line) (h : ps.any (·.1 == t) = true) :
    ∃ ip, ps.lookup t = some ip :=
  have ⟨kv, hkv, e⟩ := List.any_eq_true.mp h
  Option.isSome_iff_exists.mp (List.lookup_isSome_iff.mpr ⟨kv, hkv, Bool.beq_comm.trans e⟩)

/-- the initial passage is one of the story's passages (when it has any) -/
theorem determineInitial_sat (hE : Deliberate E n) (e : Option Line) (ps : List (Line × PPassage)) :
    Sat E (fun t => ps ≠ [] → ps.any (·.1 == t) = true) (determineInitial e ps) := by
  unfold determineInitial
  split
  · exact Sat.ite (fun h => .ok fun _ => h) fun _ => hE.valErr _
  · refine Sat.ite (fun h => .ok fun _ => h) fun _ => .ok fun hne => ?_
    cases ps with
    | nil => exact absurd rfl hne
    | cons kv rest => exact List.any_eq_true.mpr ⟨kv, List.mem_cons_self, beq_iff_eq.mpr rfl⟩

theorem determineInitial_mem (e : Option Line) (ps : List (Line × PPassage)) (t : Line) (hne : ps ≠ [])
    (h : determineInitial e ps = .ok t) : ps.any (·.1 == t) = true :=
  (determineInitial_sat (anything_deliberate 0) e ps).ok_of h hne

def Parsed.WF (O : PyOracle) (p : Parsed) : Prop :=
  KeysOk p.passages ∧
  (∃ ip, p.passages.lookup p.initial = some ip ∧ hasRequiredParam ip = false) ∧
  validateArgs O p.passages p.passages = .ok ()

/-- **`parse` from the split lines on**, for every text and every behaviour of CPython's parser: it returns a well-formed
story or fails within `E`, for every `E` that admits the deliberate outcomes about the lines of the text — a diagnostic
(located in the text, or without location), an unanswered oracle question.  The smallest such `E` holds neither an internal
error nor exhausted fuel.  (`parseLines` starts the classifier with `3·lines + 3` units of fuel: its own bound.) -/
theorem parseLines_sat (O : PyOracle) (ls : List Line) (hE : Deliberate E ls.length) :
    Sat E (Parsed.WF O) (parseLines O ls) := by
  unfold parseLines
  extract_lets lines
  have hsz : lines.size = ls.length := by
    simp only [lines, List.size_toArray, stripDirectiveComments, sdcGo_len, List.length_nil, Nat.zero_add]
  refine (coreLoop_sat hE O lines (Nat.le_of_eq hsz) _ 0 {} (.bound (Nat.le_refl _))).bind fun s hs => ?_
  extract_lets passages pickInitial validate
  have hk : KeysOk passages := List.forall_mem_map.mpr (hs (List.forall_mem_nil _))
  unfold validate pickInitial
  refine Sat.ite (fun _ => hE.valErr _) fun _ => (validateArgs_sat hE O _ _).self.bind fun u hva => ?_
  refine Sat.ite (fun _ => hE.valErr _) fun hne => (determineInitial_sat hE _ _).bind fun initial hini => ?_
  obtain ⟨ip, hip⟩ := lookup_of_any _ initial (hini (mt List.isEmpty_iff.mpr hne))
  rw [hip]
  exact Sat.ite (fun _ => hE.valErr _) fun hreq => .ok ⟨hk, ⟨ip, hip, Bool.eq_false_iff.mpr hreq⟩, hva⟩

theorem parseText_error {O : PyOracle} {src : Line} {e : Fail} (h : parseText O src = .error e) :
    parseStory O src = .error e := by
  unfold parseText at h
  split at h
  · cases h
  · rename_i he; cases h; exact he

end Bardic.Parser
