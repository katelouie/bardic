import Proofs.Lemmas.RenderInv
import Proofs.Lemmas.NavInv
/-!
# Lifting a render-level invariant to navigation

A preorder on render states that rendering respects (`RenderInv`) is respected by the passage-level calls
(`offerChoices`, `execCommands`, `renderPassage`, `executePassage`) and so — if it tolerates the `enter` events —
by `goto` (`navInv_of_renderInv`).  C09 uses it for "rendering and direct navigation record no hook run".
-/
namespace Bardic
variable {S : Sem} {R : RS S.V → RS S.V → Prop}

theorem renderChoiceText_inv (h : RenderInv S R) (cfg : RCfg S) (ch : Choice) (pre : Option String) (rs : RS S.V) :
    R (renderChoiceText cfg ch pre rs).1 rs := by
  fun_cases renderChoiceText cfg ch pre rs
  case case1 => exact h.refl _
  case case2 hr | case3 hr => exact rel_of_eq_fst hr (renderToks_inv h ..)

theorem isAvail_inv (h : RenderInv S R) (cfg : RCfg S) (cur : Option String) (used : List String) (ch : Choice)
    (pre : Option String) (rs : RS S.V) : R (isAvail cfg cur used ch pre rs).1 rs := by
  fun_cases isAvail cfg cur used ch pre rs
  case case1 hr | case2 hr _ | case3 hr _ => exact rel_of_eq_fst hr (renderChoiceText_inv h ..)
  case case4 => exact h.refl _

theorem offerChoices_inv (h : RenderInv S R) (cfg : RCfg S) (cur : Option String) (used : List String)
    (secOk : Choice → Bool) : ∀ (cs : List (Choice × Option String × Bool)) (rs : RS S.V),
    R (offerChoices cfg cur used secOk cs rs).1 rs
  | [], rs => h.refl _
  | x :: rest, rs => by
    rw [offerChoices_cons]
    refine h.bind (isAvail_inv h ..) fun rs1 av => ?_
    split
    · exact h.bind (renderChoiceText_inv h ..) fun rs2 _ =>
        h.bind (offerChoices_inv h cfg cur used secOk rest rs2) fun _ _ => h.refl _
    · exact offerChoices_inv h cfg cur used secOk rest rs1

theorem execCommands_inv (h : RenderInv S R) (cfg : RCfg S) (cs : List Tok) (rs : RS S.V) :
    R (execCommands cfg cs rs).1 rs := by
  fun_induction execCommands cfg cs rs
  case case1 => exact h.refl _
  case case2 he ih => exact h.trans ih (rel_of_eq_fst he (h.stmt ..))
  case case3 he => exact rel_of_eq_fst he (h.stmt ..)
  case case4 he ih => exact h.trans ih (rel_of_eq_fst he (h.block ..))
  case case5 he => exact rel_of_eq_fst he (h.block ..)
  case case6 ih => exact h.trans ih (h.hook ..)
  case case7 ih => exact ih

theorem renderPassage_inv (h : RenderInv S R) (c : ECfg S) (pid : String) (l : Live S.V) :
    R (renderPassage c pid l).1.rs l.rs := by
  fun_cases renderPassage c pid l
  case case1 => exact h.refl _
  case case2 he => exact rel_of_eq_fst he (renderToks_inv h ..)
  case case3 he _ _ _ _ ho | case4 he _ _ _ _ ho =>
    exact h.trans (rel_of_eq_fst ho (offerChoices_inv h ..)) (rel_of_eq_fst he (renderToks_inv h ..))

theorem executePassage_inv (h : RenderInv S R)
    (henter : ∀ (rs : RS S.V) p, R { rs with log := Ev.enter p :: rs.log } rs)
    (c : ECfg S) (pid : String) (l : Live S.V) :
    R (executePassage c pid l).1.rs l.rs := by
  fun_cases executePassage c pid l
  case case1 => exact h.refl _
  case case2 he | case3 he =>
    exact h.trans (rel_of_eq_fst he (execCommands_inv h ..)) (henter l.rs pid)

/-- a render-level invariant that tolerates `enter` events lifts to `goto` -/
theorem navInv_of_renderInv (h : RenderInv S R)
    (henter : ∀ (rs : RS S.V) p, R { rs with log := Ev.enter p :: rs.log } rs) (c : ECfg S) :
    NavInv S c (fun l' l => R l'.rs l.rs) where
  refl := fun l => h.refl _
  trans := fun h1 h2 => h.trans h1 h2
  render := renderPassage_inv h c
  execute := executePassage_inv h henter c
  mark := by intro cid l; unfold markEntered; cases c.variant <;> exact h.refl _
  out := fun l o => h.refl _
  cur := fun l x j => h.refl _
  scope := fun l l' sc hq => hq

end Bardic
