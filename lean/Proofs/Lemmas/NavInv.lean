import Proofs.Lemmas.Frame
/-!
# Walking through `goto` once

`goto_induct` is the induction on the recursion depth of `goto` that every fact about `goto` goes
through.  `NavInv` is its relational form: a reflexive-transitive relation on `Live` respected by
passage rendering, passage execution, the entry bookkeeping, cache writes, a move of the position and a balanced
scope push/pop is respected by `goto`; `SameFrame` and `OutKept` are instances.  `goto_ok_induct` is its form for what holds of
every successful navigation (`goto_cached`: what a successful `goto` returns is what it caches).
-/
namespace Bardic
variable {S : Sem}

theorem parseSpec_errKind (spec : String) (e : Exc) (h : parseSpec spec = .error e) : e.kind = .valueError := by
  revert h
  fun_cases parseSpec spec <;> intro h <;> cases h
  rfl

theorem parseDirectiveArgs_errKind (ctx : Env S.V) (args : String) (e : Exc)
    (h : parseDirectiveArgs S ctx args = .error e) : e.kind = .valueError := by
  revert h
  fun_cases parseDirectiveArgs S ctx args <;> intro h <;> cases h
  rfl

theorem bindArgs_errKind (c : ECfg S) (l : Live S.V) (ps : List Param) (ad : Env S.V) (k : Nat) (res : Env S.V)
    (e : Exc) (h : bindArgs c l ps ad k res = .error e) : e.kind = .valueError := by
  fun_induction bindArgs c l ps ad k res
  case case1 => cases h
  case case2 ih | case4 ih | case5 ih => exact ih h
  case case3 | case6 | case7 => cases h; rfl

/-- `goto` with recursion depth to spare either rejects the call with a `ValueError` before anything has happened, or
runs the chain loop from the named passage — directly, or inside the scope of the bound parameters -/
theorem goto_succ_cases (c : ECfg S) (fuel : Nat) (spec : String) (l : Live S.V) :
    (∃ e, goto c (fuel + 1) spec l = (l, .error e) ∧ e.kind = .valueError) ∨
    (∃ pid, goto c (fuel + 1) spec l = gotoBody c (goto c fuel) pid l) ∨
    (∃ pid scope, goto c (fuel + 1) spec l = withScope scope (gotoBody c (goto c fuel) pid) l) := by
  -- (`fun_cases` wants the depth as a variable)
  generalize hn : fuel + 1 = n
  fun_cases goto c n spec l
  case case1 => cases hn
  case case2 he => exact .inl ⟨_, rfl, parseSpec_errKind _ _ he⟩
  case case3 | case6 => exact .inl ⟨_, rfl, rfl⟩
  case case4 => cases hn; exact .inr (.inl ⟨_, rfl⟩)
  case case5 he => exact .inl ⟨_, rfl, parseDirectiveArgs_errKind _ _ _ he⟩
  case case7 he => exact .inl ⟨_, rfl, bindArgs_errKind c l _ _ _ _ _ he⟩
  case case8 => cases hn; exact .inr (.inr ⟨_, _, rfl⟩)

/-- **induction on the recursion depth of `goto`**, for a property `P start result` of its results: it holds of `goto`
when it holds of a call rejected at once (`ValueError`, or `RecursionError` at depth 0) with the state untouched,
passes through the push and pop of a parameter scope, and holds of the `try` body given that it holds of the
recursive calls -/
theorem goto_induct {c : ECfg S} {P : Live S.V → NRes S (Output S.V) → Prop}
    (hrej : ∀ l e, e.kind = .valueError ∨ e.kind = .recursionError → P l (l, .error e))
    (hscope : ∀ l sc l' r, P { l with scopes := sc :: l.scopes } (l', r) → P l ({ l' with scopes := l'.scopes.tail }, r))
    (hbody : ∀ recur, (∀ spec l, P l (recur spec l)) → ∀ pid l, P l (gotoBody c recur pid l))
    (fuel : Nat) (spec : String) (l : Live S.V) : P l (goto c fuel spec l) := by
  induction fuel generalizing spec l with
  | zero => exact hrej l _ (.inr rfl)
  | succ fuel ih =>
    rcases goto_succ_cases c fuel spec l with ⟨e, hg, hk⟩ | ⟨pid, hg⟩ | ⟨pid, scope, hg⟩ <;> rw [hg]
    · exact hrej l e (.inl hk)
    · exact hbody _ ih pid l
    · have := hbody _ ih pid { l with scopes := scope :: l.scopes }
      unfold withScope
      -- the body's result is named before it is taken apart: unifying against the chain loop itself is slow
      generalize gotoBody c (goto c fuel) pid { l with scopes := scope :: l.scopes } = res at this ⊢
      exact hscope l scope _ _ this

/-- `goto_induct` for a property of the result alone that every failure has: it is enough that the pop of a parameter scope and the two
ways a chain can end well keep it — the recursive `goto` of a command jump, its output merged with what the chain had gathered, and a passage
entered, executed and rendered without a further jump -/
theorem goto_ok_induct {c : ECfg S} {P : NRes S (Output S.V) → Prop} (herr : ∀ l e, P (l, .error e))
    (hscope : ∀ l r, P (l, r) → P ({ l with scopes := l.scopes.tail }, r))
    (hmerge : ∀ l3 jo content rdirs, P (l3, .ok jo) →
      let o : Output S.V := { content := content, choices := jo.choices, pid := jo.pid, rdirs := rdirs, idirs := jo.idirs }
      P ({ l3 with out := some o }, .ok o))
    (hfin : ∀ cid l l2 l3 o accC accD, executePassage c cid (markEntered c cid l) = (l2, .ok none) →
      renderPassage c cid l2 = (l3, .ok o) →
      P ({ l3 with out := some (mkFinal accC accD o) }, .ok (mkFinal accC accD o))) :
    ∀ (fuel : Nat) (spec : String) (l : Live S.V), P (goto c fuel spec l) :=
  goto_induct (P := fun _ res => P res) (fun l e _ => herr l e) (fun _ _ _ _ h => hscope _ _ h)
    fun recur hrec pid l => by
      have hloop : ∀ n visited cid accC accD l, P (gotoLoop c recur n visited cid accC accD l) := by
        intro n visited cid accC accD l
        -- the cases of `gotoLoop`, in the order of its definition (here and wherever it is taken apart): 1 the bound is
        -- exhausted, 2 the passage was visited already, 3 its commands fail, 4–6 its commands jump (the recursive `goto` fails |
        -- succeeds with nothing accumulated | succeeds, and the merged output is cached), 7 rendering fails, 8 the text jumps
        -- on (the loop continues), 9–10 the chain ends here (empty jump target | no jump) and the final output is cached
        fun_induction gotoLoop c recur n visited cid accC accD l
        case case1 | case2 | case3 | case4 | case7 => exact herr _ _
        case case5 l2 spec _ _ _ hj _ => exact hj ▸ hrec spec l2
        case case6 l2 spec _ l3 jo hj _ _ => exact hmerge l3 jo _ _ (hj ▸ hrec spec l2)
        case case8 ih => exact ih
        case case9 he _ _ ho _ _ _ _ _ _ | case10 he _ _ ho _ _ _ _ => exact hfin _ _ _ _ _ _ _ he ho
      unfold gotoBody keepCurOnError
      split
      · exact herr _ _
      · exact hloop ..

/-- `Q after before`: a preorder on game states that every step of a navigation respects — rendering and executing a
passage, the entry bookkeeping, a cache write, a move of position and `@join` progress (`cur`), a balanced push and pop of
a parameter scope -/
structure NavInv (S : Sem) (c : ECfg S) (Q : Live S.V → Live S.V → Prop) : Prop where
  refl : ∀ l, Q l l
  trans : ∀ {a b d}, Q a b → Q b d → Q a d
  render : ∀ pid l, Q (renderPassage c pid l).1 l
  execute : ∀ pid l, Q (executePassage c pid l).1 l
  mark : ∀ cid l, Q (markEntered c cid l) l
  out : ∀ (l : Live S.V) o, Q { l with out := some o } l
  cur : ∀ (l : Live S.V) x j, Q { l with cur := x, joinIdx := j } l
  scope : ∀ (l l' : Live S.V) sc, Q l' { l with scopes := sc :: l.scopes } →
    Q { l' with scopes := l'.scopes.tail } l

variable {c : ECfg S} {Q : Live S.V → Live S.V → Prop}

theorem gotoLoop_inv (h : NavInv S c Q) (recur : String → Live S.V → NRes S (Output S.V))
    (hrec : ∀ spec l, Q (recur spec l).1 l)
    (n : Nat) (visited : List String) (cid : String) (accC : List String) (accD : List (Dir S.V)) (l : Live S.V) :
    Q (gotoLoop c recur n visited cid accC accD l).1 l := by
  have hx : ∀ {cid l l2 r}, executePassage c cid (markEntered c cid l) = (l2, r) → Q l2 l :=
    fun he => h.trans (rel_of_eq_fst he (h.execute _ _)) (h.mark _ _)
  have hr : ∀ {spec l2 l3 r}, recur spec l2 = (l3, r) → Q l3 l2 := fun he => rel_of_eq_fst he (hrec _ _)
  have hp : ∀ {cid l2 l3 r}, renderPassage c cid l2 = (l3, r) → Q l3 l2 := fun he => rel_of_eq_fst he (h.render _ _)
  -- (the cases of `gotoLoop` are listed in `goto_ok_induct`)
  fun_induction gotoLoop c recur n visited cid accC accD l
  case case1 | case2 => exact h.refl _
  case case3 he => exact hx he
  case case4 he _ _ hj | case5 he _ _ hj _ => exact h.trans (hr hj) (hx he)
  case case6 he _ _ hj _ _ => exact h.trans (h.out _ _) (h.trans (hr hj) (hx he))
  case case7 he _ _ ho => exact h.trans (hp ho) (hx he)
  case case8 he _ _ ho _ _ _ _ _ ih => exact h.trans ih (h.trans (hp ho) (hx he))
  case case9 he _ _ ho _ _ _ _ _ _ | case10 he _ _ ho _ _ _ _ =>
    exact h.trans (h.out _ _) (h.trans (hp ho) (hx he))

theorem gotoBody_inv (h : NavInv S c Q) (recur : String → Live S.V → NRes S (Output S.V))
    (hrec : ∀ spec l, Q (recur spec l).1 l) (pid : String) (l : Live S.V) : Q (gotoBody c recur pid l).1 l := by
  have hl := gotoLoop_inv h recur hrec (c.story.passages.length + 1) [] pid [] [] l
  unfold gotoBody keepCurOnError
  split
  · rename_i he
    rw [he] at hl
    exact h.trans (h.cur _ _ _) hl
  · exact hl

theorem goto_inv (h : NavInv S c Q) : ∀ (fuel : Nat) (spec : String) (l : Live S.V),
    Q (goto c fuel spec l).1 l :=
  goto_induct (P := fun l res => Q res.1 l) (fun l _ _ => h.refl l) (fun l sc l' _ hq => h.scope l l' sc hq)
    (gotoBody_inv h)

theorem sameFrame_navInv (c : ECfg S) : NavInv S c SameFrame where
  refl := .refl
  trans := .trans
  render := fun pid l => (renderPassage_rsOnly c pid l).sameFrame
  execute := fun pid l => (executePassage_rsOnly c pid l).sameFrame
  mark := by intro cid l; unfold markEntered; cases c.variant <;> exact ⟨rfl, rfl⟩
  out := fun _ _ => ⟨rfl, rfl⟩
  cur := fun _ _ _ => ⟨rfl, rfl⟩
  scope := fun _ _ _ hq => ⟨congrArg List.tail hq.scopes, hq.used⟩

theorem outKept_navInv (c : ECfg S) : NavInv S c OutKept where
  refl := .refl
  trans := .trans
  render := fun pid l => (renderPassage_rsOnly c pid l).outKept
  execute := fun pid l => (executePassage_rsOnly c pid l).outKept
  mark := by intro cid l; unfold markEntered; cases c.variant <;> exact id
  out := fun _ _ _ => rfl
  cur := fun _ _ _ => id
  scope := fun _ _ _ hq => hq

/-- `goto` restores the scope stack and never touches the used one-time choices -/
theorem goto_frame (c : ECfg S) : ∀ (fuel : Nat) (spec : String) (l : Live S.V),
    SameFrame (goto c fuel spec l).1 l := goto_inv (sameFrame_navInv c)

theorem goto_outKept (c : ECfg S) : ∀ (fuel : Nat) (spec : String) (l : Live S.V),
    OutKept (goto c fuel spec l).1 l := goto_inv (outKept_navInv c)

/-! ## the cache: a successful navigation leaves its own result in `out` -/

/-- a successful result is what the cache holds afterwards -/
def OutCached (res : NRes S (Output S.V)) : Prop := ∀ o, res.2 = .ok o → res.1.out = some o

theorem OutCached.error (l : Live S.V) (e : Exc) : OutCached (l, .error e) := fun _ h => nomatch h
theorem OutCached.ok {l : Live S.V} {o : Output S.V} (h : l.out = some o) : OutCached (l, .ok o) :=
  fun _ ho => by cases ho; exact h

/-- C03: after a successful `goto` the cache holds exactly the returned result -/
theorem goto_cached (c : ECfg S) : ∀ (fuel : Nat) (spec : String) (l : Live S.V),
    OutCached (goto c fuel spec l) :=
  goto_ok_induct .error (fun _ _ h => h) (fun _ _ _ _ _ => .ok rfl) fun _ _ _ _ _ _ _ _ _ => .ok rfl

end Bardic
