import Proofs.Lemmas.Seq
/-!
# A generic invariant principle for rendering

Any reflexive-transitive relation between render states that is respected by the four primitive
effects of rendering (a `~` statement, a `@py` block, a hook command, an assignment to variables by
`@for`) is respected by `_render_content` on every token tree — by mutual structural induction.
-/
namespace Bardic
variable {S : Sem}

/-- `R after before` -/
structure RenderInv (S : Sem) (R : RS S.V → RS S.V → Prop) : Prop where
  refl : ∀ rs, R rs rs
  trans : ∀ {a b c}, R a b → R b c → R a c
  stmt : ∀ cfg code rs, R (execStmt S cfg code rs).1 rs
  block : ∀ cfg code rs, R (execBlock S cfg code rs).1 rs
  hook : ∀ cfg add ev tgt rs, R (execHook S cfg add ev tgt rs) rs
  vars : ∀ (rs : RS S.V) (v : Env S.V), R { rs with vars := v } rs

variable {R : RS S.V → RS S.V → Prop}

theorem RenderInv.bind (h : RenderInv S R) {α β} {x : RRes S α} {k : RS S.V → α → RRes S β} {rs : RS S.V}
    (hx : R x.1 rs) (hk : ∀ rs1 a, R (k rs1 a).1 rs1) : R (x.bind k).1 rs := by
  rcases x with ⟨rs1, e | a⟩
  · exact hx
  · exact h.trans (hk rs1 a) hx

theorem RenderInv.seqR (h : RenderInv S R) {x : RRes S (ROut S.V)} {k : RS S.V → RRes S (ROut S.V)}
    {rs : RS S.V} (hx : R x.1 rs) (hk : ∀ rs1, R (k rs1).1 rs1) : R (seqR x k).1 rs := by
  rw [seqR_eq_bind]
  refine h.bind hx fun rs1 r1 => ?_
  split
  · exact h.refl _
  · exact h.bind (hk rs1) fun _ _ => h.refl _

theorem loopItems_inv (h : RenderInv S R) (lv : String)
    (body : RS S.V → RRes S (ROut S.V)) (chs : RS S.V → RRes S (List (Dir S.V)))
    (hb : ∀ rs, R (body rs).1 rs) (hc : ∀ rs, R (chs rs).1 rs) :
    ∀ (items : List S.V) (rs : RS S.V), R (loopItems S lv body chs items rs).1 rs
  | [], rs => h.refl _
  | item :: items, rs => by
      rw [loopItems_cons]
      refine h.seqR (h.trans (h.vars _ _) (h.trans ?_ (h.vars rs (loopAssign S lv item rs.vars).1)))
        (loopItems_inv h lv body chs hb hc items)
      exact h.bind (hb _) fun rs2 _ => h.bind (hc rs2) fun _ _ => h.refl _

theorem loopFail_inv (h : RenderInv S R) (cfg : RCfg S) (rs : RS S.V) (msg : String) :
    R (loopFail S cfg rs msg).1 rs := by
  unfold loopFail; cases cfg.variant <;> exact h.refl _

theorem loopOver_inv (h : RenderInv S R) (cfg : RCfg S) (lv : String)
    (body : RS S.V → RRes S (ROut S.V)) (chs : RS S.V → RRes S (List (Dir S.V)))
    (hb : ∀ rs, R (body rs).1 rs) (hc : ∀ rs, R (chs rs).1 rs) (coll : Except PyErr (List S.V)) (rs : RS S.V) :
    R (loopOver cfg lv body chs coll rs).1 rs := by
  rcases coll with e | items
  · exact loopFail_inv h cfg rs _
  · have := loopItems_inv h lv body chs hb hc items rs
    revert this
    dsimp only [loopOver]
    rcases loopItems S lv body chs items rs with ⟨rs', e | r⟩
    · exact h.trans (loopFail_inv h cfg rs' _)
    · exact id

mutual
theorem renderTok_inv (h : RenderInv S R) (cfg : RCfg S) :
    ∀ (t : Tok) (rs : RS S.V), R (renderTok S cfg t rs).1 rs := by
  intro t rs
  cases t with
  | inlineCond c t f =>
      rw [renderTok_inlineCond]
      split
      · exact h.refl _
      · split
        · exact renderToks_inv h cfg t rs
        · exact renderToks_inv h cfg f rs
  | stmt code => rw [renderTok_stmt]; exact h.bind (h.stmt cfg code rs) fun _ _ => h.refl _
  | pyblock code => rw [renderTok_pyblock]; exact h.bind (h.block cfg code rs) fun _ _ => h.refl _
  | hook add ev tgt => exact h.hook cfg add ev tgt rs
  | cond bs => exact renderBranches_inv h cfg bs rs
  | loop lv coll body choices =>
      rw [renderTok_loop]
      split
      · exact h.refl _
      · exact loopOver_inv h cfg lv _ _ (renderToks_inv h cfg body) (renderChoiceTexts_inv h cfg choices) _ rs
  | _ => exact h.refl _

theorem renderToks_inv (h : RenderInv S R) (cfg : RCfg S) :
    ∀ (ts : List Tok) (rs : RS S.V), R (renderToks S cfg ts rs).1 rs
  | [], rs => h.refl _
  | t :: ts, rs => by
      rw [renderToks_cons]
      split
      · exact h.refl _
      · exact h.seqR (renderTok_inv h cfg t rs) (renderToks_inv h cfg ts)

theorem renderBranches_inv (h : RenderInv S R) (cfg : RCfg S) :
    ∀ (bs : List Branch) (rs : RS S.V), R (renderBranches S cfg bs rs).1 rs
  | [], rs => h.refl _
  | .mk c body chs :: bs, rs => by
      rw [renderBranches_cons]
      split
      · exact h.bind (renderToks_inv h cfg body rs) fun _ _ => h.refl _
      · exact renderBranches_inv h cfg bs rs

theorem renderChoiceTexts_inv (h : RenderInv S R) (cfg : RCfg S) :
    ∀ (cs : List Choice) (rs : RS S.V), R (renderChoiceTexts S cfg cs rs).1 rs
  | [], rs => h.refl _
  | .mk text tgt args cnd sticky sec tags block :: cs, rs => by
      rw [renderChoiceTexts_cons]
      exact h.bind (renderToks_inv h cfg text rs) fun rs1 _ =>
        h.bind (renderChoiceTexts_inv h cfg cs rs1) fun _ _ => h.refl _
end

end Bardic
