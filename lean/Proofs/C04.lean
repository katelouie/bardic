import Proofs.Lemmas.Choose
/-!
# C04 — undo returns exactly to the previous decision point; redo exactly re-applies it

Observation of a game = `Snap.of live`: position, variables, used one-time choices, hook
registrations, `@join` progress and the displayed output (text, directives, offered choices).
All statements are for every story and every `Sem` (author code); those about what `undo` / `redo` show are for the main
engine (`restore_obs`), `redo_undo` for a state in which every restore point carries an output (`Eng.WF`, which holds in
every reachable state: `Proofs/Lemmas/WF.lean`).
-/
namespace Bardic
variable {S : Sem}

/-- every restore point on either stack, and the live game, carries a displayed output; at most `undoCap` can be undone -/
structure Eng.WF (e : Eng S.V) : Prop where
  live : e.live.out.isSome
  undo : ∀ s ∈ e.undo, s.out.isSome
  redo : ∀ s ∈ e.redo, s.out.isSome
  cap : e.undo.length ≤ undoCap

theorem pushCap_head {α} (s : α) (st : List α) : pushCap s st = s :: st.take (undoCap - 1) := rfl

theorem pushCap_length_le {α} (s : α) (st : List α) : (pushCap s st).length ≤ undoCap :=
  List.length_take_le ..

theorem pushCap_mem {α} (s x : α) (st : List α) (h : x ∈ pushCap s st) : x = s ∨ x ∈ st :=
  List.mem_cons.mp (List.mem_of_mem_take h)

/-- `restore` of a snapshot that carries an output cannot fail, shows that output and leaves the log alone -/
theorem restore_ok (c : ECfg S) (s : Snap S.V) (l : Live S.V) (hs : s.out.isSome) :
    (restore c s l).2 = .ok () ∧ (restore c s l).1.out = s.out ∧ (restore c s l).1.log = l.log := by
  obtain ⟨cur, vars, used, hooks, joinIdx, _ | o⟩ := s
  · cases hs
  · unfold restore
    cases c.variant <;> exact ⟨rfl, rfl, rfl⟩

/-- … and in the main engine installs exactly that snapshot -/
theorem restore_obs (c : ECfg S) (hv : c.variant = .main) (s : Snap S.V) (l : Live S.V)
    (hs : s.out.isSome) : Snap.of (restore c s l).1 = s := by
  obtain ⟨cur, vars, used, hooks, joinIdx, _ | o⟩ := s
  · cases hs
  · unfold restore
    rw [hv]
    rfl

/-- `undo` with a restore point that carries an output (as all do, `Eng.WF`) -/
theorem doUndo_eq (c : ECfg S) (e : Eng S.V) (prev : Snap S.V) (rest : List (Snap S.V))
    (hu : e.undo = prev :: rest) (hp : prev.out.isSome) :
    e.doUndo c = (⟨(restore c prev e.live).1, rest, Snap.of e.live :: e.redo⟩, .bool true) := by
  have hr := (restore_ok c prev e.live hp).1
  unfold Eng.doUndo
  rewrite [hu]
  dsimp only
  generalize restore c prev e.live = res at hr ⊢
  obtain ⟨l, r⟩ := res
  cases hr
  rfl

theorem doRedo_eq (c : ECfg S) (e : Eng S.V) (nxt : Snap S.V) (rest : List (Snap S.V))
    (hu : e.redo = nxt :: rest) (hp : nxt.out.isSome) :
    e.doRedo c = (⟨(restore c nxt e.live).1, pushCap (Snap.of e.live) e.undo, rest⟩, .bool true) := by
  have hr := (restore_ok c nxt e.live hp).1
  unfold Eng.doRedo
  rewrite [hu]
  dsimp only
  generalize restore c nxt e.live = res at hr ⊢
  obtain ⟨l, r⟩ := res
  cases hr
  rfl

/-- what `choose` does to the history when the index is in range -/
theorem doChoose_history (c : ECfg S) (e : Eng S.V) (i : Int) (cur : Output S.V)
    (hout : e.live.out = some cur) (hlo : 0 ≤ i) (hhi : i < cur.choices.length) :
    (e.doChoose c i).1.undo = pushCap (Snap.of e.live) e.undo ∧ (e.doChoose c i).1.redo = [] := by
  rw [doChoose_eq c e i cur hout hlo hhi]
  exact ⟨rfl, rfl⟩

/-- **undo ∘ choose**: after any accepted `choose` — whether its navigation succeeded or raised —
one `undo` answers `True` and shows exactly the situation that existed before the choice. -/
theorem undo_choose (c : ECfg S) (hv : c.variant = .main) (e : Eng S.V) (i : Int) (cur : Output S.V)
    (hout : e.live.out = some cur) (hlo : 0 ≤ i) (hhi : i < cur.choices.length) :
    let e1 := (e.doChoose c i).1
    (e1.doUndo c).2 = Resp.bool true ∧ Snap.of (e1.doUndo c).1.live = Snap.of e.live
      ∧ (e1.doUndo c).1.undo = e.undo.take (undoCap - 1) := by
  intro e1
  have hs : (Snap.of e.live).out.isSome := by simp [Snap.of, hout]
  have hu : e1.undo = Snap.of e.live :: e.undo.take (undoCap - 1) :=
    (doChoose_history c e i cur hout hlo hhi).1.trans (pushCap_head ..)
  rw [doUndo_eq c e1 _ _ hu hs]
  exact ⟨rfl, restore_obs c hv _ _ hs, rfl⟩

theorem choose_clears_redo (c : ECfg S) (e : Eng S.V) (i : Int) (cur : Output S.V)
    (hout : e.live.out = some cur) (hlo : 0 ≤ i) (hhi : i < cur.choices.length) :
    (e.doChoose c i).1.redo = [] := (doChoose_history c e i cur hout hlo hhi).2

/-- **redo ∘ undo**: `redo` returns exactly to the situation the `undo` left -/
theorem redo_undo (c : ECfg S) (hv : c.variant = .main) (e : Eng S.V) (hw : e.WF)
    (prev : Snap S.V) (rest : List (Snap S.V)) (hu : e.undo = prev :: rest) :
    let e1 := (e.doUndo c).1
    (e.doUndo c).2 = Resp.bool true ∧ Snap.of e1.live = prev ∧
    (e1.doRedo c).2 = Resp.bool true ∧ Snap.of (e1.doRedo c).1.live = Snap.of e.live ∧
    (e1.doRedo c).1.redo = e.redo := by
  intro e1
  have hp : prev.out.isSome := hw.undo prev (hu ▸ List.mem_cons_self)
  have hl : (Snap.of e.live).out.isSome := hw.live
  have he1 := doUndo_eq c e prev rest hu hp
  have e1def : e1 = ⟨(restore c prev e.live).1, rest, Snap.of e.live :: e.redo⟩ := congrArg Prod.fst he1
  rw [he1, e1def, doRedo_eq c _ _ _ rfl hl]
  exact ⟨rfl, restore_obs c hv _ _ hp, rfl, restore_obs c hv _ _ hl, rfl⟩

/-- undo / redo with nothing to do answer `False` and change nothing at all -/
theorem undo_empty_noop (c : ECfg S) (e : Eng S.V) (h : e.undo = []) :
    e.doUndo c = (e, Resp.bool false) := by
  unfold Eng.doUndo; rw [h]

theorem redo_empty_noop (c : ECfg S) (e : Eng S.V) (h : e.redo = []) :
    e.doRedo c = (e, Resp.bool false) := by
  unfold Eng.doRedo; rw [h]

/-- an index outside the offered range raises `IndexError` and changes nothing, history included -/
theorem choose_out_of_range_noop (c : ECfg S) (e : Eng S.V) (i : Int) (cur : Output S.V)
    (hout : e.live.out = some cur) (hbad : i < 0 ∨ (cur.choices.length : Int) ≤ i) :
    ∃ msg, e.doChoose c i = (e, Resp.raised ⟨.indexError, msg⟩) := by
  have hg : (i < 0 || i ≥ (cur.choices.length : Int)) = true := by
    simp only [Bool.or_eq_true, decide_eq_true_eq]; omega
  unfold Eng.doChoose
  rw [hout]
  exact ⟨_, if_pos hg⟩

end Bardic
