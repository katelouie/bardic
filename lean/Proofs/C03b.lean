import Proofs.C15
-- (brings `Lemmas/NavInv` and `Lemmas/Frame`, and has to be here in any case: `Lift` too proves facts by `fun_induction
-- execCommands`; Lean declares the auxiliary lemmas of that induction in the module that first asks for them, and two modules
-- that did so independently cannot be imported together)
import Proofs.Lemmas.Lift
/-!
# C03 — entering a passage runs its commands once, in source order, after the entry is recorded
# C08 — the chain loop of `goto` always ends through its own visited check, never through the bound

`gotoLoop_bound` rests on the error kinds of the passage-level calls (`renderPassage_errOk`, `executePassage_errOk`: the
passage-level half of C15).  At the end: a failed navigation leaves position and `@join` progress alone (C10, C15).
-/
namespace Bardic
variable {S : Sem}

/-- the events the commands of a passage leave in the log, in source order -/
def cmdEvents (v : Variant) : List Tok → List Ev
  | [] => []
  | .stmt code :: cs => Ev.exec code :: cmdEvents v cs
  | .pyblock code :: cs => Ev.exec code :: cmdEvents v cs
  | .hook add ev tgt :: cs =>
    (match v with | .main => [Ev.hookReg add ev tgt] | .browser => []) ++ cmdEvents v cs
  | _ :: cs => cmdEvents v cs

theorem execStmt_log {cfg : RCfg S} {code rs rs1 r} (he : execStmt S cfg code rs = (rs1, r)) :
    rs1.log = Ev.exec code :: rs.log :=
  (congrArg (·.1.log) he).symm.trans (by fun_cases execStmt S cfg code rs <;> rfl)

theorem execBlock_log {cfg : RCfg S} {code rs rs1 r} (he : execBlock S cfg code rs = (rs1, r)) :
    rs1.log = Ev.exec code :: rs.log :=
  (congrArg (·.1.log) he).symm.trans (by fun_cases execBlock S cfg code rs <;> rfl)

/-- **commands run once each, in source order**: when `_execute_commands` succeeds, the log has grown by exactly one
event per command, in the order of the list (the log is newest-first) -/
theorem execCommands_log (cfg : RCfg S) : ∀ (cmds : List Tok) (rs rs' : RS S.V),
    execCommands cfg cmds rs = (rs', .ok ()) → rs'.log = (cmdEvents cfg.variant cmds).reverse ++ rs.log := by
  intro cmds rs rs' h
  -- a command that logs `ev` and then lets the rest run
  have cons : ∀ {ev : Ev} {evs l l1 x : List Ev}, l1 = ev :: l → x = evs.reverse ++ l1 →
      x = (ev :: evs).reverse ++ l := by
    intro ev evs l l1 x h1 h2
    rw [h2, h1, List.reverse_cons, List.append_assoc]
    rfl
  fun_induction execCommands cfg cmds rs
  case case1 => cases h; rfl
  case case2 he ih => exact cons (execStmt_log he) (ih h)
  case case3 | case5 => cases h
  case case4 he ih => exact cons (execBlock_log he) (ih h)
  case case6 ih =>
    refine (ih h).trans ?_
    rw [execHook]
    cases cfg.variant
    · exact cons rfl rfl
    · rfl
  case case7 h1 h2 h3 ih =>
    rw [ih h, cmdEvents]
    · exact h1
    · exact h2
    · exact h3

/-- **entering a passage**: a successful `_execute_passage` records the entry once and then one event per command, in
source order — and nothing else (no text is rendered before the commands have run: rendering happens after this
call returns) -/
theorem executePassage_log (c : ECfg S) (pid : String) (l l' : Live S.V) (j : Option String) (p : Passage)
    (hp : c.story.passage? pid = some p) (h : executePassage c pid l = (l', .ok j)) :
    l'.log = (cmdEvents c.variant p.execute).reverse ++ Ev.enter pid :: l.log := by
  revert h
  fun_cases executePassage c pid l
  case case1 | case2 => intro h; cases h
  case case3 hp' _ _ _ he =>
    intro h
    cases h
    cases hp.symm.trans hp'
    exact (execCommands_log _ _ _ _ he :)

/-- pigeonhole on association lists: distinct keys that all have an entry are no more than the entries -/
theorem keys_le_length {α} : ∀ (ps : List (String × α)) (ks : List String), ks.Nodup →
    (∀ k ∈ ks, (ps.lookup k).isSome = true) → ks.length ≤ ps.length := by
  intro ps
  induction ps with
  | nil =>
    intro ks _ h
    cases ks with
    | nil => exact Nat.le_refl _
    | cons k r => cases h k List.mem_cons_self
  | cons kv rest ih =>
    intro ks hnd h
    -- the keys other than the first entry's are distinct keys of the remaining entries
    have hsub : (ks.erase kv.1).length ≤ rest.length := by
      refine ih _ (hnd.erase _) fun k hk => ?_
      have hne : (k == kv.1) = false := beq_false_of_ne ((List.Nodup.mem_erase_iff hnd).mp hk).1
      have := h k (List.mem_of_mem_erase hk)
      rwa [List.lookup_cons, hne] at this
    exact Nat.le_trans (Nat.le_add_of_sub_le List.le_length_erase) (Nat.succ_le_succ hsub)

/-- the error the chain loop would give if its bound ran out -/
def boundExhausted : Exc := ⟨.other, "internal: chain bound exhausted"⟩

theorem not_okKind_bound : ¬OkKind boundExhausted := fun h => by rcases h with h | h <;> cases h

/-- the error branch of a passage-level function: the call `x` ended in `e` and the function answers `(t, .error e)` —
whose errors are then of the expected kinds because those of `x` are -/
theorem okKind_passed {σ τ α β : Type} {x : σ × Except Exc α} (hx : ∀ e, x.2 = .error e → OkKind e)
    {s : σ} {t : τ} {e : Exc} (he : x = (s, .error e)) :
    ∀ e', ((t, .error e) : τ × Except Exc β).2 = .error e' → OkKind e' :=
  fun e' h => hx e' (by rw [he]; exact congrArg Except.error (Except.error.inj h))

theorem execCommands_errOk (cfg : RCfg S) (cmds : List Tok) (rs : RS S.V) : ErrOk (execCommands cfg cmds rs) := by
  fun_induction execCommands cfg cmds rs
  case case1 => exact .ok _ _
  case case2 ih | case4 ih | case6 ih | case7 ih => exact ih
  case case3 code _ rs _ _ he => exact okKind_passed (fun e h => .inl (execStmt_errKind cfg code rs e h)) he
  case case5 code _ rs _ _ he => exact okKind_passed (fun e h => .inl (execBlock_errKind cfg code rs e h)) he

theorem renderChoiceText_errOk (cfg : RCfg S) (hv : cfg.variant = .main) (ch : Choice) (pre : Option String) (rs : RS S.V) :
    ErrOk (renderChoiceText cfg ch pre rs) := by
  fun_cases renderChoiceText cfg ch pre rs
  case case1 | case2 => exact .ok _ _
  case case3 he => exact okKind_passed (renderToks_errOk cfg hv ch.text rs) he

theorem isAvail_errOk (cfg : RCfg S) (hv : cfg.variant = .main) (cur : Option String) (used : List String) (ch : Choice)
    (pre : Option String) (rs : RS S.V) : ErrOk (isAvail cfg cur used ch pre rs) := by
  fun_cases isAvail cfg cur used ch pre rs
  case case1 he => exact okKind_passed (renderChoiceText_errOk cfg hv ch pre rs) he
  case case2 | case3 | case4 => exact .ok _ _

theorem offerChoices_errOk (cfg : RCfg S) (hv : cfg.variant = .main) (cur : Option String) (used : List String)
    (secOk : Choice → Bool) : ∀ (all : List (Choice × Option String × Bool)) (rs : RS S.V),
    ErrOk (offerChoices cfg cur used secOk all rs)
  | [], rs => .ok _ _
  | x :: rest, rs => by
    rw [offerChoices_cons]
    refine ErrOk.bind (isAvail_errOk cfg hv _ _ _ _ _) fun rs1 av => ?_
    split
    · exact ErrOk.bind (renderChoiceText_errOk cfg hv _ _ _) fun rs2 _ =>
        (offerChoices_errOk cfg hv cur used secOk rest rs2).bind fun _ _ => .ok _ _
    · exact offerChoices_errOk cfg hv cur used secOk rest rs1

theorem renderPassage_errOk (c : ECfg S) (hv : c.variant = .main) (pid : String) (l : Live S.V) :
    ∀ e, (renderPassage c pid l).2 = .error e → OkKind e := by
  fun_cases renderPassage c pid l
  case case1 => intro e h; cases h; exact .inr rfl
  case case2 he => exact okKind_passed (renderToks_errOk (Live.rcfg c l) hv _ l.rs) he
  case case3 ho => exact okKind_passed (offerChoices_errOk (Live.rcfg c l) hv _ _ _ _ _) ho
  case case4 => exact fun _ h => nomatch h

theorem executePassage_errOk (c : ECfg S) (pid : String) (l : Live S.V) :
    ∀ e, (executePassage c pid l).2 = .error e → OkKind e := by
  fun_cases executePassage c pid l
  case case1 => intro e h; cases h; exact .inr rfl
  case case2 he => exact okKind_passed (execCommands_errOk _ _ _) he
  case case3 => exact fun _ h => nomatch h

theorem executePassage_ok_exists {c : ECfg S} {pid : String} {l l' : Live S.V} {j : Option String}
    (h : executePassage c pid l = (l', .ok j)) : (c.story.passages.lookup pid).isSome = true := by
  revert h
  fun_cases executePassage c pid l with
  | case1 => intro h; cases h
  | case2 _ hp | case3 _ hp => exact fun _ => Option.isSome_iff_exists.mpr ⟨_, hp⟩

/-- **the chain loop of `goto` always ends through the engine's own visited check**: every passage of the chain exists
and is new, so there can be at most as many as the story has passages — the explicit bound of the model's loop
(passages + 1) is never what stops it.  Hence the real `while True` loop terminates too (by the same argument,
for every story, every state and every author code). -/
theorem gotoLoop_bound (c : ECfg S) (hv : c.variant = .main) (recur : String → Live S.V → NRes S (Output S.V))
    (hrec : ∀ spec l, (recur spec l).2 ≠ .error boundExhausted) :
    ∀ (n : Nat) (visited : List String) (cid : String) (accC : List String) (accD : List (Dir S.V)) (l : Live S.V),
      visited.Nodup → (∀ v ∈ visited, (c.story.passages.lookup v).isSome = true) →
      c.story.passages.length + 1 ≤ n + visited.length →
      (gotoLoop c recur n visited cid accC accD l).2 ≠ .error boundExhausted := by
  intro n visited cid accC accD l
  fun_induction gotoLoop c recur n visited cid accC accD l
  case case1 visited _ _ _ _ =>
    intro hnd hex hlen
    have := keys_le_length c.story.passages visited hnd hex
    omega
  case case2 | case5 | case6 | case9 | case10 => exact fun _ _ _ h => nomatch h
  case case3 he => exact fun _ _ _ h => not_okKind_bound (okKind_passed (executePassage_errOk c _ _) he _ h)
  case case4 l2 spec _ _ _ hj => exact fun _ _ _ => hj ▸ hrec spec l2
  case case7 ho => exact fun _ _ _ h => not_okKind_bound (okKind_passed (renderPassage_errOk c hv _ _) ho _ h)
  case case8 hvis _ he _ _ _ _ _ _ _ _ ih =>
    intro hnd hex hlen
    refine ih (List.nodup_cons.mpr ⟨by simpa using hvis, hnd⟩) ?_ (Nat.add_right_comm _ 1 _ ▸ hlen)
    intro v hvm
    rcases List.mem_cons.mp hvm with rfl | hm
    · exact executePassage_ok_exists he
    · exact hex v hm

theorem goto_bound (c : ECfg S) (hv : c.variant = .main) : ∀ (fuel : Nat) (spec : String) (l : Live S.V),
    (goto c fuel spec l).2 ≠ .error boundExhausted :=
  goto_induct (P := fun _ res => res.2 ≠ .error boundExhausted)
    (fun _ e hk h => by rw [Except.error.inj h] at hk; rcases hk with hk | hk <;> cases hk)
    (fun _ _ _ _ h => h)
    fun recur hrec pid l => by
      unfold gotoBody
      rw [keepCurOnError_snd]
      exact gotoLoop_bound c hv recur hrec _ [] pid [] [] l List.nodup_nil (List.forall_mem_nil _) (Nat.le_add_right _ _)

/-- a failed `goto` leaves the position and the `@join` progress as they were -/
theorem goto_failed_keeps (c : ECfg S) (fuel : Nat) (spec : String) (l : Live S.V) (e : Exc)
    (h : (goto c fuel spec l).2 = .error e) :
    (goto c fuel spec l).1.cur = l.cur ∧ (goto c fuel spec l).1.joinIdx = l.joinIdx :=
  goto_induct (P := fun l res => ∀ e, res.2 = .error e → res.1.cur = l.cur ∧ res.1.joinIdx = l.joinIdx)
    (fun _ _ _ _ _ => ⟨rfl, rfl⟩) (fun _ _ _ _ h => h)
    (fun recur _ pid l e h => by
      unfold gotoBody at h ⊢
      rw [keepCurOnError_snd] at h
      rw [keepCurOnError_error _ _ e h]
      exact ⟨rfl, rfl⟩)
    fuel spec l e h

/-- **a navigation that fails leaves the position where it was**: whatever `goto` had entered before the failure, the
current passage afterwards is the one it was before (with `goto_outKept`, whose output is still displayed: a displayed
`-> @join` choice, `undo`, `save_state` … all speak about the same passage) -/
theorem goto_failed_keeps_position (c : ECfg S) (fuel : Nat) (spec : String) (l : Live S.V) (e : Exc)
    (h : (goto c fuel spec l).2 = .error e) : (goto c fuel spec l).1.cur = l.cur :=
  (goto_failed_keeps c fuel spec l e h).1

/-- **a navigation that fails part-way leaves the `@join` progress where it was**: what is displayed (the old output, a
later section of the passage) and the section the next `-> @join` choice continues from stay in step (C10, C15) -/
theorem goto_failed_keeps_join (c : ECfg S) (fuel : Nat) (spec : String) (l : Live S.V) (e : Exc)
    (h : (goto c fuel spec l).2 = .error e) : (goto c fuel spec l).1.joinIdx = l.joinIdx :=
  (goto_failed_keeps c fuel spec l e h).2

end Bardic
