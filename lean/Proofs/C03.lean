import Proofs.Lemmas.Choose
/-!
# C03 — reads are effect-free; `current()` is the last navigation result

(The "commands run once per entry" half is `executePassage_log` in `Proofs/C03b.lean`.)
-/
namespace Bardic
variable {S : Sem}

/-- **read calls change nothing**: the whole engine state (live game, undo and redo history) after a
read call is the state before it, however often it is called -/
theorem read_noop (c : ECfg S) (e : Eng S.V) (op : Op S.V) (h : op.isRead = true) :
    (step c e op).1 = e := by
  cases op with
  | choose | undo | redo | goto | load | resetOneTime => cases h
  | _ => rfl

theorem reads_noop (c : ECfg S) (e : Eng S.V) (ops : List (Op S.V)) (h : ∀ op ∈ ops, op.isRead = true) :
    (run c e ops).1 = e := by
  induction ops with
  | nil => rfl
  | cons op ops ih =>
    show (run c (step c e op).1 ops).1 = e
    rw [read_noop c e op (h op List.mem_cons_self)]
    exact ih fun o ho => h o (List.mem_cons_of_mem _ ho)

/-- `current()` after a successful `goto` answers exactly what `goto` returned -/
theorem current_after_goto (c : ECfg S) (e : Eng S.V) (spec : String) (o : Output S.V)
    (h : (step c e (.goto spec)).2 = .out o) :
    ((step c e (.goto spec)).1.live.out) = some o := by
  rw [step_goto] at h ⊢
  exact goto_cached c _ _ _ o (navResp_out h)

theorem withHookText_cached (l : Live S.V) (r : Output S.V) (h : String) (hl : l.out = some r) :
    (withHookText l r h).1.out = some (withHookText l r h).2 := by
  fun_cases withHookText l r h
  · rfl
  · exact hl

/-- hooks leave the cache alone, so what `choose` returns after running them is what it caches -/
theorem hooks_cached {c : ECfg S} {ev : String} {l2 l3 l4 : Live S.V} {r r' : Output S.V} {h : String}
    (hl : l2.out = some r) (ht : triggerEvent c ev l2 = (l3, .ok h)) (hw : withHookText l3 r h = (l4, r')) : l4.out = some r' := by
  have := withHookText_cached l3 r h ((rel_of_eq_fst ht (triggerEvent_rsOnly ..)).out.trans hl)
  rw [hw] at this
  exact this

theorem joinChoice_cached (c : ECfg S) (ch : OChoice) (l : Live S.V) : OutCached (joinChoice c ch l) := by
  fun_cases joinChoice c ch l
  case case4 ht _ _ hw => exact .ok (hooks_cached rfl ht hw)
  all_goals exact .error _ _

theorem chooseNav_cached (c : ECfg S) (ch : OChoice) (l : Live S.V) : OutCached (chooseNav c ch l) := by
  fun_cases chooseNav c ch l
  case case1 => exact joinChoice_cached c ch l
  case case2 | case4 => exact .error _ _
  case case3 hg _ => exact hg ▸ goto_cached c _ _ _
  case case5 l2 r hg _ _ _ ht _ _ hw =>
    exact .ok (hooks_cached ((hg ▸ goto_cached c _ _ _ : OutCached (l2, .ok r)) r rfl) ht hw)

/-- **`current()` always returns what the last navigation call returned** (for `choose`) -/
theorem current_after_choose (c : ECfg S) (e : Eng S.V) (i : Int) :
    ∀ o, (e.doChoose c i).2 = .out o → (e.doChoose c i).1.live.out = some o := by
  intro o h
  rcases doChoose_cases c e i with ⟨x, hx⟩ | ⟨cur, hc, h0, h1⟩
  · rw [hx] at h; cases h
  · simp only [doChoose_eq c e i cur hc h0 h1] at h ⊢
    apply chooseNav_cached
    exact navResp_out h

end Bardic
