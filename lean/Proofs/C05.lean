import Proofs.Lemmas.NavInv
/-!
# C05 — save / load

`save` is a read (see `read_noop`).  `load_state` validates first and rejects malformed documents and
unknown passages leaving everything untouched; once it accepts, it installs variables (through the
value codec), used choices and hooks from the document, clears both history stacks and re-enters the
saved passage with `goto`.  (That re-entry re-runs the passage's commands — recorded finding C05-F1;
`load_installs_used` states what happens to the used choices.)
-/
namespace Bardic
variable {S : Sem}

/-- `save_state()` has no effect on the running game -/
theorem save_noop (c : ECfg S) (e : Eng S.V) : (step c e .save).1 = e := rfl

/-- malformed documents are rejected with `ValueError`, nothing changes -/
theorem load_rejects_malformed (c : ECfg S) (e : Eng S.V) :
    (∃ m, step c e (.load .notDict) = (e, .raised ⟨.valueError, m⟩)) ∧
    (∀ d, ∃ m, step c e (.load (.noVersion d)) = (e, .raised ⟨.valueError, m⟩)) :=
  ⟨⟨_, rfl⟩, fun _ => ⟨_, rfl⟩⟩

/-- a document pointing at an unknown passage is rejected with `ValueError`, nothing changes -/
theorem load_rejects_unknown_passage (c : ECfg S) (e : Eng S.V) (d : SaveDoc S.V)
    (h : c.story.passage? (d.cur.getD "Start") = none) :
    ∃ m, step c e (.load (.doc d)) = (e, .raised ⟨.valueError, m⟩) := by
  exact ⟨_, if_pos (by rw [h]; rfl)⟩

/-- once accepted, loading clears undo and redo history — whether the re-entry succeeds or raises -/
theorem load_clears_history (c : ECfg S) (e : Eng S.V) (d : SaveDoc S.V)
    (h : (c.story.passage? (d.cur.getD "Start")).isSome) :
    (step c e (.load (.doc d))).1.undo = [] ∧ (step c e (.load (.doc d))).1.redo = [] := by
  show (e.doLoad c (.doc d)).1.undo = [] ∧ (e.doLoad c (.doc d)).1.redo = []
  -- (`fun_cases` wants the argument as a variable)
  generalize ha : LoadArg.doc d = a
  fun_cases Eng.doLoad c a e
  case case1 | case2 => cases ha
  case case3 hn => cases ha; rw [Option.isNone_iff_eq_none.mp hn] at h; cases h
  case case4 | case5 => exact ⟨rfl, rfl⟩

/-- an accepted load installs the document's used choices as a set, and the navigation that follows does not touch
them (the variables, through the value codec and the story's import bindings, and the hooks are installed by the same
assignment in `Eng.doLoad`; the navigation may change those) -/
theorem load_installs_used (c : ECfg S) (hv : c.variant = .main) (e : Eng S.V) (d : SaveDoc S.V)
    (h : (c.story.passage? (d.cur.getD "Start")).isSome) :
    (step c e (.load (.doc d))).1.live.used = d.used.eraseDups := by
  show (e.doLoad c (.doc d)).1.live.used = _
  generalize ha : LoadArg.doc d = a
  fun_cases Eng.doLoad c a e
  case case1 | case2 => cases ha
  case case3 hn => cases ha; rw [Option.isNone_iff_eq_none.mp hn] at h; cases h
  case case4 l1 _ _ hg | case5 l1 _ _ hg =>
    cases ha
    refine (rel_of_eq_fst hg (goto_frame c _ _ _)).used.trans ?_
    simp only [l1, hv]

/-- `save` lists the used one-time choices in sorted order (deterministic across processes) and the
document is exactly the live position / variables / hooks -/
theorem save_doc (c : ECfg S) (hv : c.variant = .main) (e : Eng S.V) :
    (step c e .save).2 = .doc ⟨e.live.cur, e.live.vars, sortStrs e.live.used, e.live.hooks⟩ := by
  unfold step Eng.doSave
  rw [hv]

end Bardic
