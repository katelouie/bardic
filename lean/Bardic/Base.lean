/-!
# Base: environments (insertion-ordered string-keyed maps), exceptions, small string utilities.

Python dicts are insertion ordered; `Env` mirrors that with an association list in which a key
occurs at most once (all operations below preserve this).  No Mathlib, no Lean.Json: this file is
part of the model proper.
-/
namespace Bardic

abbrev Env (V : Type) := List (String × V)

namespace Env
variable {V : Type}

def get? (e : Env V) (k : String) : Option V := e.lookup k

def contains (e : Env V) (k : String) : Bool := (e.lookup k).isSome

/-- `d[k] = v`: replace in place when present, append otherwise. -/
def set : Env V → String → V → Env V
  | [], k, v => [(k, v)]
  | (k', v') :: e, k, v => if k' == k then (k', v) :: e else (k', v') :: set e k v

/-- `del d[k]` (no error when absent). -/
def erase : Env V → String → Env V
  | [], _ => []
  | (k', v') :: e, k => if k' == k then e else (k', v') :: erase e k

/-- `d.update(o)` -/
def update (e o : Env V) : Env V := o.foldl (fun acc kv => acc.set kv.1 kv.2) e

def keys (e : Env V) : List String := e.map (·.1)


theorem get?_set_self (e : Env V) (k : String) (v : V) : (e.set k v).get? k = some v := by
  unfold get?
  fun_induction set e k v with
  | case1 => rw [List.lookup_cons, beq_iff_eq.mpr rfl]
  | case2 k' v' e k v h => rw [List.lookup_cons, beq_iff_eq.mpr (eq_of_beq h).symm]
  | case3 k' v' e k v h ih => rw [List.lookup_cons, beq_false_of_ne fun hk => h (beq_iff_eq.mpr hk.symm)]; exact ih

theorem get?_set_ne (e : Env V) (k k2 : String) (v : V) (hne : k2 ≠ k) :
    (e.set k v).get? k2 = e.get? k2 := by
  unfold get?
  fun_induction set e k v with
  | case1 k v => rw [List.lookup_cons, beq_false_of_ne hne]
  | case2 k' v' e k v h => rw [List.lookup_cons, List.lookup_cons, beq_false_of_ne (eq_of_beq h ▸ hne)]
  | case3 k' v' e k v h ih => rw [List.lookup_cons, List.lookup_cons, ih hne]

end Env

/-- Python exception classes the engine distinguishes (its own raises and what callers see). -/
inductive ExcKind
  | valueError | runtimeError | recursionError | indexError | typeError | other
  deriving DecidableEq, Repr, Inhabited

structure Exc where
  kind : ExcKind
  msg : String
  deriving DecidableEq, Repr, Inhabited

/-- `isinstance(e, RuntimeError)` — `RecursionError` is a subclass. -/
def ExcKind.isRuntime : ExcKind → Bool
  | .runtimeError | .recursionError => true
  | _ => false

/-- An exception raised by author code (`eval`/`exec`/`format`), identified by class name. -/
structure PyErr where
  cls : String
  msg : String
  deriving DecidableEq, Repr, Inhabited

/-! ### String helpers (on `List Char`, so that they reduce in the kernel) -/

def isPyWs (c : Char) : Bool :=
  c == ' ' || c == '\t' || c == '\n' || c == '\r' || c == '\x0b' || c == '\x0c' ||
  -- the rest of `str.isspace()`: FS/GS/RS/US, NEL, NBSP and the Unicode space separators
  c == '\x1c' || c == '\x1d' || c == '\x1e' || c == '\x1f' || c == '\u0085' || c == '\u00a0' ||
  c == '\u1680' || ('\u2000' ≤ c && c ≤ '\u200a') || c == '\u2028' || c == '\u2029' || c == '\u202f' ||
  c == '\u205f' || c == '\u3000'

def lstripL : List Char → List Char
  | [] => []
  | c :: cs => if isPyWs c then lstripL cs else c :: cs

def rstripL (cs : List Char) : List Char := (lstripL cs.reverse).reverse

def stripL (cs : List Char) : List Char := rstripL (lstripL cs)

/-- Python `s.strip()` for ASCII whitespace. -/
def pyStrip (s : String) : String := String.ofList (stripL s.toList)

def isPrefixL : List Char → List Char → Bool
  | [], _ => true
  | _ :: _, [] => false
  | a :: as, b :: bs => a == b && isPrefixL as bs

/-- `pat in s` on character lists. -/
def containsL (pat : List Char) : List Char → Bool
  | [] => pat.isEmpty
  | c :: cs => isPrefixL pat (c :: cs) || containsL pat cs

def strContains (s pat : String) : Bool := containsL pat.toList s.toList

/-- split at the first occurrence of `c` : `(before, after)` -/
def splitFirstL (c : Char) : List Char → Option (List Char × List Char)
  | [] => none
  | d :: ds => if d == c then some ([], ds) else
      match splitFirstL c ds with
      | some (a, b) => some (d :: a, b)
      | none => none

/-- `sep.join(parts)` -/
def joinWith (sep : String) : List String → String
  | [] => ""
  | [a] => a
  | a :: b :: rest => a ++ sep ++ joinWith sep (b :: rest)

/-- insert into a list-as-set -/
def setInsert (xs : List String) (x : String) : List String := if xs.contains x then xs else xs ++ [x]

end Bardic
