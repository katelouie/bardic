import Bardic.Parser.Blocks
/-!
# The text-level parser, part 3: `parse(source)` (`bardic/compiler/parsing/core.py`, `preprocessing.py`,
`validation.py`)

`parseText oracle source` is `parse(source)`: directive comments are stripped, the line classifier walks
the lines, then whitespace cleanup, trailing-newline trim, duplicate check, call validation, initial passage.
-/
namespace Bardic.Parser

/-! ## `strip_directive_comments` -/

def commentable : List String :=
  ["@endif", "@endfor", "@endpy", "@py", "@else", "@join", "@hook ", "@unhook ", "@start ", "@metadata", "->", ">>"]

def stripDirectiveCommentsGo : List Line → Option String → List Line → List Line
  | [], _, acc => acc.reverse
  | line :: rest, closer, acc =>
    let st := stripL line
    let cm := match closer with
      | none => swAny st commentable
      | some c => sw st c
    let line' :=
      if cm then
        let p := strip line
        if p.2.isEmpty then line else rstripL p.1
      else line
    let st' := stripL line'
    let closer' := match closer with
      | none => if sw st' "@py" then some "@endpy" else if sw st' "<<py" then some ">>" else none
      | some c => if strEq st' c then none else some c
    stripDirectiveCommentsGo rest closer' (line' :: acc)

def stripDirectiveComments (ls : List Line) : List Line := stripDirectiveCommentsGo ls none []

/-! ## passages under construction -/

structure PPassage where
  id : Line
  params : List J
  content : List J := []
  choices : List J := []
  execute : List J := []
  tags : List Line := []
  inputs : Option (List J) := none
  joinCount : Option Nat := none
  curSection : Option Nat := none

def PPassage.toJ (p : PPassage) : J :=
  .obj ([("id", .str p.id), ("params", .arr p.params), ("content", .arr p.content), ("choices", .arr p.choices),
         ("execute", .arr p.execute), ("tags", tagsJ p.tags)]
    ++ (match p.inputs with | some ds => [("input_directives", .arr ds)] | none => [])
    ++ (match p.joinCount with | some n => [("_join_count", .num n)] | none => [])
    ++ (match p.curSection with | some n => [("current_section", .num n)] | none => []))

structure PSt where
  imports : List Line := []
  metadata : List (Line × Line) := []
  passages : List (Line × PPassage) := []        -- insertion-ordered dict
  locations : List (Line × List Nat) := []
  cur : Option Line := none
  explicitStart : Option Line := none
  inImports : Bool := true
  inMeta : Bool := false

def dictSet {β} (d : List (Line × β)) (k : Line) (v : β) : List (Line × β) :=
  if d.any (·.1 == k) then d.map (fun kv => if kv.1 == k then (k, v) else kv) else d ++ [(k, v)]

def PSt.modCur (s : PSt) (f : PPassage → PPassage) : PSt :=
  match s.cur with
  | none => s
  | some k => { s with passages := s.passages.map (fun kv => if kv.1 == k then (kv.1, f kv.2) else kv) }

def PSt.curPassage (s : PSt) : Option PPassage := s.cur.bind (fun k => s.passages.lookup k)

def paramJ (p : Param) : J :=
  .obj [("name", .str p.name), ("default", match p.default with | some d => .str d | none => .null)]

def isAsciiAlnum (c : Char) : Bool := isAsciiAlpha c || isAsciiDigit c

/-- `key, value = stripped.split(":", 1)` -/
def splitColon (s : Line) : Option (Line × Line) := splitFirstL ':' s

def jGetStr (j : J) (k : String) : Option Line :=
  match j with
  | .obj kvs => (match kvs.lookup k with | some (.str s) => some s | _ => none)
  | _ => none

/-! ## the line classifier -/

/-- one passage header line -/
def headerLine (O : PyOracle) (line : Line) (i : Nat) (s : PSt) : PM PSt := do
  let header := stripL (strip (stripL (line.drop 3))).1
  let (nameWithTags, paramsStr) ← liftPy "extract_passage_params" (extractPassageParams header)
  let (name, tags) := parseTags nameWithTags
  match (← liftPy "validate_passage_name" (validatePassageName isAsciiAlnum isAsciiDigit name)) with
  | some _ => synErr i "Invalid Passage Name"
  | none => pure ()
  let params ←
    if paramsStr.isEmpty then pure []
    else match (← liftPy "parse_passage_params"
        (parsePassageParams (fun d => match O.expr d with | .ok => some true | .bad => some false | .miss => none) paramsStr)) with
      | .ok ps => pure ps
      | .error (.oracleMiss d) => .error (.oracleMiss d)
      | .error _ => synErr i "Invalid Parameter"
  let locs := (s.locations.lookup name).getD []
  pure { s with
    locations := dictSet s.locations name (locs ++ [i + 1])
    passages := dictSet s.passages name { id := name, params := params.map paramJ, tags := tags }
    cur := some name }

def isJoinTarget (ch : List (String × J)) : Bool :=
  match ch.lookup "target" with
  | some (.str t) => strEq t "@join"
  | _ => false

/-- a top-level choice line: the choice dict (with its section and, for `-> @join`, its block) and the
number of block lines consumed after it -/
def topChoice (lines : Lines) (i : Nat) (line : Line) (sec : Nat) : PM (J × Nat) := do
  match (← liftPy "validate_choice_syntax" (validateChoice line)) with
  | some _ => synErr i "Malformed Choice"
  | none => pure ()
  match (← parseChoiceLine line) with
  | none => synErr i "Internal Error: Choice validation passed but parsing failed"
  | some ch =>
    if isJoinTarget ch then do
      let (bc, be, n) ← extractJoinBlock lines (i + 1) (indentOf line)
      pure (.obj (ch ++ [("section", .num sec)] ++ (if bc.isEmpty then [] else [("block_content", .arr bc)])
                     ++ (if be.isEmpty then [] else [("block_execute", .arr be)])), n)
    else pure (.obj (ch ++ [("section", .num sec)]), 0)

/-- the `while i < len(lines)` of `_parse_source` -/
def coreLoop (O : PyOracle) (lines : Lines) : Nat → Nat → PSt → PM PSt
  | 0, _, _ => .error .fuel
  | f + 1, i, s =>
    if h : i < lines.size then
      match lines[i], stripL lines[i] with
      | line, st =>
      -- imports section
      if s.inImports && (st.isEmpty || sw st "#") then coreLoop O lines f (i + 1) s
      else if s.inImports && (sw st "import " || sw st "from ") then
        -- the line must be Python (`ast.parse(line)`): the engine executes it as it stands
        match O.stmt line with
        | .ok => coreLoop O lines f (i + 1) { s with imports := s.imports ++ [line] }
        | .miss => .error (.oracleMiss line)
        | _ => synErr i "Invalid Import"
      else
        match ({ s with inImports := false } : PSt) with
        | s =>
        if strEq st "@metadata" then coreLoop O lines f (i + 1) { s with inMeta := true }
        else if s.inMeta && (st.isEmpty || sw st "#") then coreLoop O lines f (i + 1) s
        else if s.inMeta && (sw line " " || sw line "\t") && st.contains ':' then
          match splitColon st with
          | some (k, v) => coreLoop O lines f (i + 1) { s with metadata := dictSet s.metadata (stripL k) (stripL v) }
          | none => .error (.internal "metadata split")
        else
          match ({ s with inMeta := false } : PSt) with
          | s =>
          if sw st "@start " then coreLoop O lines f (i + 1) { s with explicitStart := some (stripL (st.drop 7)) }
          else if sw line ":: " then do
            let s ← headerLine O line i s
            coreLoop O lines f (i + 1) s
          else
            match s.curPassage with
            | none => coreLoop O lines f (i + 1) s
            | some cp =>
              if sw st "#" then coreLoop O lines f (i + 1) s
              else if sw st "<<py" || sw st "@py" then do
                let (code, n) ← extractPythonBlock lines i
                coreLoop O lines f (i + n) (s.modCur fun p => { p with execute := p.execute ++ [pyBlockTok code] })
              else if sw st "<<if " || sw st "@if " then do
                let (c, n) ← extractCond lines f i
                coreLoop O lines f (i + n) (s.modCur fun p => { p with content := p.content ++ [c] })
              else if sw st "<<for " || sw st "@for " then do
                let (c, n) ← extractLoop lines f i
                coreLoop O lines f (i + n) (s.modCur fun p => { p with content := p.content ++ [c] })
              else if sw st "@render" then do
                let d ← parseRenderLine line (some i)
                coreLoop O lines f (i + 1)
                  (match d with | some d => s.modCur fun p => { p with content := p.content ++ [d] } | none => s)
              else if sw st "@input" then do
                let d ← parseInputLine line (some i)
                coreLoop O lines f (i + 1)
                  (match d with
                   | some d => s.modCur fun p => { p with inputs := some (p.inputs.getD [] ++ [d]) }
                   | none => s)
              else if sw st "@hook " then
                match hookTok st true with
                | some d => coreLoop O lines f (i + 1) (s.modCur fun p => { p with execute := p.execute ++ [d] })
                | none => synErr i "@hook requires exactly 2 arguments"
              else if sw st "@unhook " then
                match hookTok st false with
                | some d => coreLoop O lines f (i + 1) (s.modCur fun p => { p with execute := p.execute ++ [d] })
                | none => synErr i "@unhook requires exactly 2 arguments"
              else if strEq st "@join" then
                coreLoop O lines f (i + 1) (s.modCur fun p =>
                  { p with joinCount := some (cp.joinCount.getD 0 + 1)
                           content := p.content ++ [.obj [("type", jstr "join_marker"), ("id", .num (cp.joinCount.getD 0))]]
                           curSection := some (p.curSection.getD 0 + 1) })
              else if sw st "->" then
                match reMatch reJumpTop st with
                | some cs => do
                  let (t, a) ← liftPy "extract_target_and_args" (extractTargetAndArgs (stripL (cap cs 1)))
                  coreLoop O lines f (i + 1) (s.modCur fun p =>
                    { p with content := p.content ++ [.obj [("type", jstr "jump"), ("target", .str t), ("args", .str a)]] })
                | none => coreLoop O lines f (i + 1) s
              else if sw line "~ " then do
                let (ls, n) ← liftPy "extract_multiline_expression" (multiline lines.toList i (stmtCode (line.drop 2)))
                match O.stmt (joinNl ls) with
                | .ok => coreLoop O lines f (i + n) (s.modCur fun p => { p with execute := p.execute ++ [stmtTok (joinNl ls)] })
                -- (Python also ends a line at a bare carriage return: its line count is kept on the statement's own lines)
                | .syntaxError ln => synErr (i + (match ln with | some k => min (k - 1) (n - 1) | none => 0)) "Invalid Python Syntax"
                | .tooComplex => synErr i "Python statement is too complex to parse"
                | .miss => .error (.oracleMiss (joinNl ls))
              else if sw line "+ " || sw line "* " then
                do
                let (ch, n) ← topChoice lines i line (cp.curSection.getD 0)
                coreLoop O lines f (i + n + 1) (s.modCur fun p =>
                  { p with curSection := some (cp.curSection.getD 0), choices := p.choices ++ [ch] })
              else if !st.isEmpty then do
                let t ← contentLineGlue line (some i)
                coreLoop O lines f (i + 1) (s.modCur fun p => { p with content := p.content ++ t })
              else
                coreLoop O lines f (i + 1) (s.modCur fun p => { p with content := p.content ++ [nlTok] })
    else pure s

/-! ## after the loop -/

def jIsNl : J → Bool
  | .obj kvs =>
    (match kvs.lookup "type", kvs.lookup "value" with
     | some (.str t), some (.str v) => strEq t "text" && strEq v "\n"
     | _, _ => false)
  | _ => false

def jIsCond : J → Bool
  | .obj kvs => (match kvs.lookup "type" with | some (.str t) => strEq t "conditional" | _ => false)
  | _ => false

def jHead (p : J → Bool) : List J → Bool
  | t :: _ => p t
  | [] => false

/-- `_cleanup_whitespace` (`acc` = cleaned, reversed) -/
def cleanupJ : List J → List J → List J
  | [], acc => acc.reverse
  | t :: rest, acc =>
    if jIsNl t && jHead jIsCond rest && jHead jIsNl acc then cleanupJ rest acc
    else if jIsNl t && jHead jIsCond acc && jHead jIsNl rest then cleanupJ rest acc
    else cleanupJ rest (t :: acc)

/-- `_trim_trailing_newlines` -/
def trimJ (ts : List J) : List J :=
  let n := (ts.reverse.takeWhile jIsNl).length
  if n > 1 then ts.take (ts.length - (n - 1)) else ts

/-- a call site as `validate_passage_arguments` sees it -/
def validateCall (O : PyOracle) (passages : List (Line × PPassage)) (target args : Line) : PM Unit :=
  if strEq target "@join" then pure ()
  else
    match passages.lookup target with
    | none => synErrNoLoc "Target passage does not exist"
    | some tp =>
      let params := tp.params
      if params.isEmpty then
        if !args.isEmpty then synErrNoLoc "takes no parameters" else pure ()
      else
        match O.call args with
        | .miss => .error (.oracleMiss args)
        | .syntaxError => synErrNoLoc "Malformed arguments"
        | .star => synErrNoLoc "argument unpacking is not supported"
        | .shape npos kws =>
          let names := params.filterMap (fun p => jGetStr p "name")
          let required := params.filterMap (fun p =>
            match p with
            | .obj kvs => (match kvs.lookup "default", kvs.lookup "name" with
                           | some .null, some (.str n) => some n
                           | _, _ => none)
            | _ => none)
          if npos > params.length then synErrNoLoc "too many positional arguments"
          else if kws.any (fun k => !names.contains k) then synErrNoLoc "no parameter named"
          else
            let provided := names.take npos ++ kws
            if required.any (fun r => !provided.contains r) then synErrNoLoc "Missing required parameter(s)"
            else if (names.take npos).any (fun n => kws.contains n) then synErrNoLoc "both positional and keyword"
            else pure ()

/-- the choices of one passage, then its top-level jumps -/
def validateChoices (O : PyOracle) (passages : List (Line × PPassage)) : List J → PM Unit
  | [] => pure ()
  | ch :: rest => do
    validateCall O passages ((jGetStr ch "target").getD []) ((jGetStr ch "args").getD [])
    validateChoices O passages rest

def validateJumps (O : PyOracle) (passages : List (Line × PPassage)) : List J → PM Unit
  | [] => pure ()
  | t :: rest => do
    if jGetStr t "type" == some "jump".toList then
      -- (`@join` is the target of a choice: a passage-level jump to it is rejected)
      if strEq ((jGetStr t "target").getD []) "@join" then synErrNoLoc "-> @join is only valid as the target of a choice"
      else validateCall O passages ((jGetStr t "target").getD []) ((jGetStr t "args").getD [])
    validateJumps O passages rest

def validateArgs (O : PyOracle) (passages : List (Line × PPassage)) : List (Line × PPassage) → PM Unit
  | [] => pure ()
  | (_, p) :: rest => do
    validateChoices O passages p.choices
    validateJumps O passages p.content
    validateArgs O passages rest

/-- what `parse` has established when it returns -/
structure Parsed where
  initial : Line
  passages : List (Line × PPassage)
  metadata : List (Line × Line)
  imports : List Line

def hasRequiredParam (ip : PPassage) : Bool :=
  ip.params.any (fun p => match p with
    | .obj kvs => (match kvs.lookup "default" with | some .null => true | _ => false)
    | _ => false)

/-- `_determine_initial_passage` (the story has at least one passage here) -/
def determineInitial (explicitStart : Option Line) (passages : List (Line × PPassage)) : PM Line :=
  match explicitStart with
  | some e => if passages.any (·.1 == e) then pure e else valErr "Start passage not found"
  | none =>
    if passages.any (·.1 == "Start".toList) then pure "Start".toList
    else pure (match passages with | (k, _) :: _ => k | [] => [])

/-- `_parse_source` from the split lines on, up to the final dict -/
def parseLines (O : PyOracle) (ls : List Line) : PM Parsed := do
  let lines : Lines := (stripDirectiveComments ls).toArray
  -- three units of fuel per line (one per iteration, two handed down to nested block extractors) are always enough:
  -- `Proofs/C11d.lean`
  let s ← coreLoop O lines (3 * lines.size + 3) 0 {}
  let passages := s.passages.map fun kv => (kv.1, { kv.2 with content := trimJ (cleanupJ kv.2.content []) })
  if s.locations.any (fun kv => kv.2.length > 1) then valErr "Duplicate passage names"
  validateArgs O passages passages
  if passages.isEmpty then valErr "Story has no passages"
  let initial ← determineInitial s.explicitStart passages
  -- the game enters the initial passage without arguments
  match passages.lookup initial with
  | some ip => if hasRequiredParam ip then valErr "Initial passage has required parameter(s)"
  | none => pure ()
  pure { initial, passages, metadata := s.metadata, imports := s.imports }

/-- `parse(source)` up to the final dict -/
def parseStory (O : PyOracle) (source : Line) : PM Parsed := parseLines O (splitNl source)

def Parsed.toJ (p : Parsed) : J :=
  .obj [("version", jstr "0.1.0"), ("initial_passage", .str p.initial),
        ("metadata", .obj (p.metadata.map fun kv => (String.ofList kv.1, .str kv.2))),
        ("imports", .arr (p.imports.map .str)),
        ("passages", .obj (p.passages.map fun kv => (String.ofList kv.1, kv.2.toJ)))]

/-- `parse(source)` -/
def parseText (O : PyOracle) (source : Line) : PM J :=
  match parseStory O source with
  | .ok p => .ok p.toJ
  | .error e => .error e

end Bardic.Parser
